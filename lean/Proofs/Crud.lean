/-
  The CRUD core (`get`, `exist`, `count`, `getMany`, `all`, `insertCore`, `insert`, `delete`) refines the
  abstract map `Coll.view`.

  `Inv` (Proofs/Inv.lean) is enough for the reads and for the rejecting half of the write path.
  It is NOT preserved by an accepted insert nor by a delete when caching is off and the cache
  happens to hold a (never read) entry (`Counter`, at the end).  What a write builds is therefore
  stated over `Inv'` (= `Inv` + "cache off ⇒ cache empty"): `inv_insert`, `inv_delete` and what rests on
  them.  Three of these statements exist a second time over `Inv`, with that clause as the extra
  hypothesis `hoff`: `insertCore_accept_partial`, `insert_accepted_partial`, `delete_spec_partial`.
-/
import Proofs.Prim
namespace Sod

theorem nodup_filterMap_of_inj {α β : Type} (f : α → Option β)
    (hinj : ∀ a b o, f a = some o → f b = some o → a = b) (l : List α) (hn : l.Nodup) :
    (l.filterMap f).Nodup :=
  List.Pairwise.filterMap f (fun a a' hne b hb b' hb' (e : b = b') => hne (hinj a a' b hb (e ▸ hb'))) hn

theorem Inv.congr {c c' : Coll} {l : Loaded} (h : Inv c l) (hm : c'.mem = c.mem) (hf : c'.disk.files = c.disk.files)
    (hp : c'.pending = c.pending) (hc : c'.cache = c.cache) : Inv c' l := by
  have hv : c'.view = c.view := view_congr hp hf
  exact { mem := hm ▸ h.mem, wf := h.wf, refl := hv ▸ h.refl, dom := hv ▸ h.dom, typed := hv ▸ h.typed,
          cacheOk := hv ▸ hc ▸ h.cacheOk, pendCached := hp ▸ hc ▸ h.pendCached, syncNoPend := hp ▸ h.syncNoPend,
          flusher := h.flusher, keyedF := hf ▸ h.keyedF, keyedP := hp ▸ h.keyedP, keyedC := hc ▸ h.keyedC }

/-- the strengthened invariant: with caching off the cache is empty (the model never writes to it) -/
structure Inv' (c : Coll) (l : Loaded) : Prop extends Inv c l where
  cacheOff : l.settings.mustCache = false → c.cache = []

theorem Inv'.congr {c c' : Coll} {l : Loaded} (h : Inv' c l) (hm : c'.mem = c.mem) (hf : c'.disk.files = c.disk.files)
    (hp : c'.pending = c.pending) (hc : c'.cache = c.cache) : Inv' c' l :=
  ⟨h.toInv.congr hm hf hp hc, by rw [hc]; exact h.cacheOff⟩

theorem Inv'.commit_iff {c : Coll} {l : Loaded} (l' : Loaded) : Inv' (c.commit l') l ↔ Inv' c l :=
  ⟨fun h => h.congr (commit_mem c l').symm (commit_files c l').symm (commit_pending c l').symm (commit_cache c l').symm,
   fun h => h.congr (commit_mem c l') (commit_files c l') (commit_pending c l') (commit_cache c l')⟩

/-! ### the index and the store it indexes -/

/-- the part of `Inv` that ties `l.index` to `c.view`, for any index and any store: the temporary index
    of a batch has it too -/
structure Indexes (ix : ObjIndex) (objs : Nat → Option Obj) : Prop where
  wf : ix.WF
  refl : Reflects ix objs
  dom : ∀ u, u ∈ ix.uuids ↔ (objs u).isSome

theorem Inv.indexes {c : Coll} {l : Loaded} (h : Inv c l) : Indexes l.index c.view := ⟨h.wf, h.refl, h.dom⟩

theorem Indexes.reload {ix : ObjIndex} {objs : Nat → Option Obj} (h : Indexes ix objs) : Indexes ix.reload objs :=
  ⟨reload_wf h.wf, reload_reflects h.refl, h.dom⟩

theorem Indexes.new (descs : List FieldDesc) : Indexes (ObjIndex.new descs) (fun _ => none) :=
  ⟨new_wf _, new_reflects _, fun _ => ⟨(fun h => nomatch h), (fun h => nomatch h)⟩⟩

theorem Indexes.insert {ix ix' : ObjIndex} {objs : Nat → Option Obj} {o : Obj} (h : Indexes ix objs)
    (ht : o.Typed ix) (hr : ix.insertOrUpdate o = .ok ix') : Indexes ix' (updView objs o.uuid (some o)) := by
  refine ⟨insertOrUpdate_wf h.wf ht hr, insertOrUpdate_reflects h.wf ht h.refl hr, ?_⟩
  intro u
  have hm : u ∈ ix'.uuids ↔ u = o.uuid ∨ u ∈ ix.uuids := by
    rw [insertOrUpdate_uuids hr]
    split
    · exact ⟨Or.inr, fun h => h.elim (fun e => e ▸ ‹_›) id⟩
    · rw [List.mem_append, List.mem_singleton, or_comm]
  rw [hm, updView_apply, h.dom u]
  by_cases hu : u = o.uuid
  · rw [if_pos hu]
    exact ⟨fun _ => rfl, fun _ => Or.inl hu⟩
  · rw [if_neg hu]
    exact ⟨fun h => h.resolve_left hu, Or.inr⟩

theorem Indexes.delete {ix : ObjIndex} {objs : Nat → Option Obj} (h : Indexes ix objs) (u : Nat) :
    Indexes (ix.deleteByUUID u) (updView objs u none) := by
  refine ⟨deleteByUUID_wf h.wf u, deleteByUUID_reflects h.wf h.refl u, ?_⟩
  intro w
  rw [deleteByUUID_uuids h.wf, updView_apply, List.mem_filter]
  by_cases hw' : w = u
  · rw [if_pos hw', hw']
    exact ⟨fun h => absurd rfl (bne_iff_ne.mp h.2), nofun⟩
  · rw [if_neg hw', ← h.dom w]
    exact ⟨And.left, fun h => ⟨h, bne_iff_ne.mpr hw'⟩⟩

/-- `o` does not collide, on a unique field, with an object of the store having another uuid -/
def Free (U : Nat → Prop) (objs : Nat → Option Obj) (o : Obj) : Prop :=
  ∀ p, U p → ∀ u o', objs u = some o' → o'.field p = o.field p → u = o.uuid

theorem Indexes.satisfyAll_ok_iff {ix : ObjIndex} {objs : Nat → Option Obj} {o : Obj} (h : Indexes ix objs)
    (ht : o.Typed ix) : ix.satisfyAll o = .ok () ↔ Free (UPos ix) objs o := by
  rw [Sod.satisfyAll_ok_iff h.wf ht]
  -- by `Reflects` the entries `(v, oid)` of a field index are the stored objects with value `v` in that
  -- field, `oid` being the oid of their uuid: (→) turns the colliding object into an entry, (←) the entry
  -- into an object
  constructor
  · rintro hok p ⟨fi, hfi, rfl, hq⟩ u o' hu hf
    obtain ⟨oid, ho⟩ := oidOf_isSome_iff.mpr ((h.dom u).mpr (Option.isSome_of_eq_some hu))
    obtain ⟨v, hv, _⟩ := ht fi hfi
    have he : ((v, oid) : Entry) ∈ fi.idx :=
      (h.refl.mem_idx fi hfi (v, oid)).mpr ⟨u, o', oidOf_mem ho, hu, by rw [hf, hv]⟩
    have := hok fi hfi hq _ he hv
    rw [uuidOf_of_mem h.wf.oidNodup (oidOf_mem ho)] at this
    exact Option.some.inj this
  · intro hfree fi hfi hq e he hf
    obtain ⟨u, o', h1, h2, h3⟩ := (h.refl.mem_idx fi hfi e).mp he
    rw [uuidOf_of_mem h.wf.oidNodup h1, hfree fi.pos ⟨fi, hfi, rfl, hq⟩ u o' h2 (by rw [h3, hf])]

theorem inv_fresh {c : Coll} {l : Loaded} (hm : c.mem = some l) (I : Indexes l.index c.view)
    (hty : ∀ u o, c.view u = some o → o.Typed l.index ∧ o.uuid = u) (hk : c.disk.files.Keyed)
    (hp : c.pending = []) (hc : c.cache = [])
    (hfl : l.settings.async.isSome = true → l.flusher = true) : Inv' c l where
  mem := hm
  wf := I.wf
  refl := I.refl
  dom := I.dom
  typed := hty
  cacheOk u o h := by rw [hc] at h; cases h
  pendCached u o h := by rw [hp] at h; cases h
  syncNoPend _ := hp
  flusher := hfl
  keyedF := hk
  keyedP := hp ▸ OMap.Keyed.nil
  keyedC := hc ▸ OMap.Keyed.nil
  cacheOff _ := hc

theorem inv_empty {c : Coll} {l : Loaded} (hm : c.mem = some l) (hix : l.index = ObjIndex.new l.descs)
    (hf : c.disk.files = []) (hp : c.pending = []) (hc : c.cache = [])
    (hfl : l.settings.async.isSome = true → l.flusher = true) : Inv' c l := by
  have hv : c.view = fun _ => none := by
    funext u
    rw [view_nopend hp, hf]
    rfl
  refine inv_fresh hm ?_ ?_ (hf ▸ OMap.Keyed.nil) hp hc hfl
  · rw [hix, hv]
    exact Indexes.new l.descs
  · intro u o h
    rw [hv] at h
    cases h

/-! ### the schema access, get, and the id table against the view -/

theorem schema_of_inv {c : Coll} {l : Loaded} (h : Inv c l) : c.schema = (c, .ok l) :=
  schema_of_mem h.mem (startFlusher_of_flusher h.flusher)

theorem inv_cache_put {c : Coll} {l : Loaded} (h : Inv c l) {o : Obj} (hv : c.view o.uuid = some o) :
    Inv { c with cache := c.cache.put o } l := by
  refine { h with cacheOk := ?_, pendCached := ?_, keyedC := h.keyedC.put o }
  · intro w o' hw
    change (c.cache.put o).get? w = some o' at hw
    rw [OMap.get?_put] at hw
    split at hw
    · next e => exact (e ▸ hv).trans hw
    · exact h.cacheOk w o' hw
  · intro w o' hw
    show (c.cache.put o).get? w = some o'
    rw [OMap.get?_put]
    split
    · next e => rw [← hv, ← e, view_eq, hw]
    · exact h.pendCached w o' hw

theorem get_spec {c : Coll} {l : Loaded} (h : Inv c l) (u : Nat) :
    (c.get u).2 = (match c.view u with | some o => Res.ok o | none => Res.err Err.notFound) ∧
    Inv (c.get u).1 l ∧ (c.get u).1.view = c.view ∧ (l.settings.mustCache = false → (c.get u).1 = c) := by
  rw [get_of_schema (schema_of_inv h)]
  cases hmc : l.settings.mustCache with
  | false =>
    rw [view_nopend (h.syncNoPend (mustCache_false hmc).2)]
    cases c.disk.files.get? u <;> exact ⟨rfl, h, rfl, fun _ => rfl⟩
  | true =>
    rw [if_pos rfl]
    cases hcg : c.cache.get? u with
    | some o =>
      rw [h.cacheOk u o hcg]
      exact ⟨rfl, h, rfl, fun _ => rfl⟩
    | none =>
      have hp : c.pending.get? u = none := by
        cases hp : c.pending.get? u with
        | none => rfl
        | some o' =>
          rw [h.pendCached u o' hp] at hcg
          cases hcg
      rw [view_eq, hp]
      cases hfg : c.disk.files.get? u with
      | none => exact ⟨rfl, h, rfl, fun _ => rfl⟩
      | some o =>
        refine ⟨rfl, inv_cache_put h ?_, rfl, fun h0 => nomatch h0⟩
        rw [h.keyedF.get? hfg, view_eq, hp, hfg]

theorem Inv'.of_cacheOff {c c' : Coll} {l : Loaded} (h : Inv' c l) (hi : Inv c' l)
    (hc : l.settings.mustCache = false → c' = c) : Inv' c' l :=
  ⟨hi, fun hmc => by rw [hc hmc]; exact h.cacheOff hmc⟩

theorem get_spec' {c : Coll} {l : Loaded} (h : Inv' c l) (u : Nat) :
    (c.get u).2 = (match c.view u with | some o => Res.ok o | none => Res.err Err.notFound) ∧
    Inv' (c.get u).1 l ∧ (c.get u).1.view = c.view ∧ (c.get u).1.disk = c.disk :=
  let ⟨h1, h2, h3, h4⟩ := get_spec h.toInv u
  ⟨h1, h.of_cacheOff h2 h4, h3, (get_sameDir c u).disk⟩

theorem get_stored {c : Coll} {l : Loaded} (h : Inv' c l) {u : Nat} {o : Obj} (hv : c.view u = some o) :
    ∃ c', c.get u = (c', .ok o) ∧ Inv' c' l ∧ c'.view = c.view ∧ c'.disk = c.disk := by
  obtain ⟨h1, h2, h3, h4⟩ := get_spec' h u
  rw [hv] at h1
  exact ⟨_, Prod.ext rfl h1, h2, h3, h4⟩

theorem get_gone {c : Coll} {l : Loaded} (h : Inv' c l) {u : Nat} (hv : c.view u = none) :
    ∃ c', c.get u = (c', .err .notFound) ∧ Inv' c' l ∧ c'.view = c.view ∧ c'.disk = c.disk := by
  obtain ⟨h1, h2, h3, h4⟩ := get_spec' h u
  rw [hv] at h1
  exact ⟨_, Prod.ext rfl h1, h2, h3, h4⟩

theorem uuidOf_view {c : Coll} {l : Loaded} (h : Inv c l) {oid u : Nat} (hu : l.index.uuidOf oid = some u) :
    ∃ o, c.view u = some o ∧ o.uuid = u :=
  h.refl.ids_stored _ (uuidOf_mem hu)

theorem view_oid {c : Coll} {l : Loaded} (h : Inv c l) {u : Nat} {o : Obj} (hv : c.view u = some o) :
    ∃ oid, l.index.oidOf u = some oid ∧ l.index.uuidOf oid = some u := by
  have hm : u ∈ l.index.uuids := (h.dom u).mpr (Option.isSome_of_eq_some hv)
  obtain ⟨oid, ho⟩ := oidOf_isSome_iff.mpr hm
  exact ⟨oid, ho, (oidOf_iff_uuidOf h.wf u oid).mp ho⟩

def iter {α : Type} : Nat → (α → α) → α → α
  | 0, _, a => a
  | n+1, f, a => iter n f (f a)

theorem get_absent_always {c : Coll} {l : Loaded} (h : Inv c l) (u : Nat) (ha : c.view u = none) (n : Nat) :
    ((iter n (fun c => (c.get u).1) c).get u).2 = Res.err Err.notFound := by
  induction n generalizing c with
  | zero =>
    show (c.get u).2 = _
    rw [(get_spec h u).1, ha]
  | succ n ih =>
    show ((iter n (fun c => (c.get u).1) (c.get u).1).get u).2 = _
    obtain ⟨_, h2, h3, _⟩ := get_spec h u
    exact ih h2 (by rw [h3]; exact ha)

theorem exist_spec {c : Coll} {l : Loaded} (h : Inv c l) (u : Nat) :
    c.exist u = (c, Res.ok (c.view u).isSome) := by
  have e : (l.settings.async.isSome && c.pending.has u) = c.pending.has u := by
    cases ha : l.settings.async with
    | none =>
      rw [h.syncNoPend ha]
      rfl
    | some a => rfl
  unfold Coll.exist
  rw [schema_of_inv h, view_isSome, ← e]

theorem count_spec {c : Coll} {l : Loaded} (h : Inv c l) : c.count = (c, Res.ok l.index.uuids.length) := by
  unfold Coll.count
  rw [schema_of_inv h]
  exact congrArg (fun n => (c, Res.ok n)) (List.length_map _).symm

/-! ### getMany, all -/

theorem getMany_spec {c : Coll} {l : Loaded} (h : Inv c l) (us : List Nat) (hus : ∀ u ∈ us, (c.view u).isSome) :
    ∃ c', c.getMany us = (c', us.filterMap c.view, none) ∧ Inv c' l ∧ c'.view = c.view ∧
      (l.settings.mustCache = false → c' = c) := by
  induction us generalizing c with
  | nil => exact ⟨c, rfl, h, rfl, fun _ => rfl⟩
  | cons u us ih =>
    obtain ⟨h1, h2, h3, h4⟩ := get_spec h u
    cases hv : c.view u with
    | none => exact nomatch hv ▸ hus u List.mem_cons_self
    | some o =>
      rw [hv] at h1
      obtain ⟨c', i1, i2, i3, i4⟩ := ih h2 (fun w hw => by rw [h3]; exact hus w (List.mem_cons_of_mem _ hw))
      refine ⟨c', ?_, i2, i3.trans h3, fun hmc => (i4 hmc).trans (h4 hmc)⟩
      rw [Coll.getMany, show c.get u = ((c.get u).1, Res.ok o) from Prod.ext rfl h1]
      simp only [i1, h3, List.filterMap_cons, hv]

theorem all_eq {c : Coll} {l : Loaded} (h : Inv c l) :
    ∃ c', c.all = (c', Res.ok (l.index.uuids.filterMap c.view), l.index.uuids.filterMap c.view) ∧ Inv c' l ∧
      c'.view = c.view ∧ (l.settings.mustCache = false → c' = c) := by
  obtain ⟨c', h1, h2⟩ := getMany_spec h l.index.uuids (fun u hu => (h.dom u).mp hu)
  refine ⟨c', ?_, h2⟩
  unfold Coll.all
  rw [schema_of_inv h]
  simp only [h1]

theorem all_spec {c : Coll} {l : Loaded} (h : Inv c l) :
    ∃ c' os, c.all = (c', Res.ok os, os) ∧ os = l.index.uuids.filterMap c.view ∧ Inv c' l ∧ c'.view = c.view :=
  let ⟨c', h1, h2, h3, _⟩ := all_eq h
  ⟨c', _, h1, rfl, h2, h3⟩

theorem all_complete {c : Coll} {l : Loaded} (h : Inv c l) (u : Nat) (o : Obj) :
    c.view u = some o ↔ o ∈ l.index.uuids.filterMap c.view ∧ o.uuid = u := by
  rw [List.mem_filterMap]
  constructor
  · intro hv
    exact ⟨⟨u, (h.dom u).mpr (Option.isSome_of_eq_some hv), hv⟩, (h.typed u o hv).2⟩
  · rintro ⟨⟨w, _, hw⟩, hou⟩
    have := (h.typed w o hw).2
    rw [← hou, this]
    exact hw

theorem all_nodup {c : Coll} {l : Loaded} (h : Inv c l) : (l.index.uuids.filterMap c.view).Nodup := by
  apply nodup_filterMap_of_inj _ _ _ h.wf.uuidNodup
  intro a b o ha hb
  rw [← (h.typed a o ha).2, ← (h.typed b o hb).2]

/-! ### the write path: `insertCore` -/

theorem insertCore_reject_serial {E : Env} {c : Coll} {l : Loaded} {o : Obj} (commit : Bool)
    (hs : E.serialisable o = false) : Coll.insertCore E c l o commit = (c, Res.err Err.other) := by
  rw [Coll.insertCore, hs]
  rfl

theorem insertCore_reject_unique {E : Env} {c : Coll} {l : Loaded} {o : Obj} (commit : Bool)
    (hs : E.serialisable o = true) (hu : l.index.satisfyAll o = Res.err Err.unique) :
    Coll.insertCore E c l o commit = (c, Res.err Err.unique) := by
  rw [Coll.insertCore, hs, hu]
  rfl

theorem updView_mono {f g : Nat → Option Obj} (h : ∀ u o, f u = some o → g u = some o)
    (k : Nat) (x : Option Obj) : ∀ u o, updView f k x u = some o → updView g k x u = some o := by
  intro u o
  rw [updView_apply, updView_apply]
  split
  · exact id
  · exact h u o

theorem typed_updView {ix ix' : ObjIndex} {v : Nat → Option Obj} {k : Nat} {x : Option Obj}
    (h : ∀ u o, v u = some o → o.Typed ix ∧ o.uuid = u) (hty : ∀ {o : Obj}, o.Typed ix → o.Typed ix')
    (hx : ∀ o, x = some o → o.Typed ix ∧ o.uuid = k) :
    ∀ u o, updView v k x u = some o → o.Typed ix' ∧ o.uuid = u := by
  intro u o hv
  rw [updView_apply] at hv
  split at hv
  · next hu =>
    obtain ⟨h1, h2⟩ := hx o hv
    exact ⟨hty h1, h2.trans hu.symm⟩
  · obtain ⟨h1, h2⟩ := h u o hv
    exact ⟨hty h1, h2⟩

/-- stated of any `c'` with these four components, which keeps the term `insState …` out of the proof -/
theorem inv_insert {c c' : Coll} {l : Loaded} {o : Obj} {ix' : ObjIndex} (h : Inv' c l)
    (ht : o.Typed l.index) (hr : l.index.insertOrUpdate o = .ok ix')
    (hm : c'.mem = some { l with index := ix' })
    (hp : c'.pending = if l.settings.async.isSome then c.pending.put o else c.pending)
    (hf : c'.disk.files = if l.settings.async.isSome then c.disk.files else c.disk.files.put o)
    (hc : c'.cache = if l.settings.mustCache then c.cache.put o else c.cache) :
    Inv' c' { l with index := ix' } ∧ c'.view = updView c.view o.uuid (some o) := by
  have hv : c'.view = updView c.view o.uuid (some o) := by
    cases ha : l.settings.async.isSome with
    | true =>
      rw [ha] at hp hf
      exact view_put_pending hp hf
    | false =>
      rw [ha] at hp hf
      have hn := h.syncNoPend (Option.not_isSome_iff_eq_none.mp (ne_true_of_eq_false ha))
      exact view_put_files (hp.trans hn) hn hf
  have I := h.indexes.insert ht hr
  refine ⟨{
    mem := hm, wf := I.wf, refl := hv ▸ I.refl, dom := hv ▸ I.dom,
    typed := hv ▸ typed_updView h.typed (insertOrUpdate_typed hr) (fun _ e => Option.some.inj e ▸ ⟨ht, rfl⟩),
    cacheOk := ?_, pendCached := ?_, syncNoPend := ?_, flusher := h.flusher,
    keyedF := hf ▸ .ite h.keyedF (h.keyedF.put o), keyedP := hp ▸ .ite (h.keyedP.put o) h.keyedP,
    keyedC := hc ▸ .ite (h.keyedC.put o) h.keyedC, cacheOff := ?_ }, hv⟩
  -- a store that is in use is updated like the view; one that is not is empty and stays so
  · rw [hv, hc]
    cases hmc : l.settings.mustCache with
    | true =>
      rw [if_pos rfl, OMap.get?_put_fn]
      exact updView_mono h.cacheOk _ _
    | false =>
      rw [if_neg Bool.false_ne_true, h.cacheOff hmc]
      exact fun _ _ hg => nomatch hg
  · rw [hp, hc]
    cases ha : l.settings.async.isSome with
    | true =>
      rw [mustCache_of_async ha, if_pos rfl, if_pos rfl, OMap.get?_put_fn, OMap.get?_put_fn]
      exact updView_mono h.pendCached _ _
    | false =>
      rw [if_neg Bool.false_ne_true, h.syncNoPend (Option.not_isSome_iff_eq_none.mp (ne_true_of_eq_false ha))]
      exact fun _ _ hg => nomatch hg
  · intro (hn : l.settings.async = none)
    rw [hp, hn]
    exact h.syncNoPend hn
  · intro (hmc : l.settings.mustCache = false)
    rw [hc, hmc, if_neg Bool.false_ne_true]
    exact h.cacheOff hmc

/-- the state `insertCore` builds once the object is accepted -/
def insState (c : Coll) (l : Loaded) (o : Obj) (ix' : ObjIndex) (commit : Bool) : Coll :=
  let c1 := if l.settings.async.isSome then { c with pending := c.pending.put o } else (c.fs .mkdir).fs (.writeObj o)
  let l' : Loaded := { l with index := ix' }
  let c2 := c1.setMem l'
  let c3 := if l'.settings.mustCache then { c2 with cache := c2.cache.put o } else c2
  if !l'.settings.async.isSome && commit then c3.commit l' else c3

theorem insertCore_eq {E : Env} {c : Coll} {l : Loaded} {o : Obj} {ix' : ObjIndex} (commit : Bool)
    (hs : E.serialisable o = true) (hr : l.index.insertOrUpdate o = .ok ix') :
    Coll.insertCore E c l o commit = (insState c l o ix' commit, Res.ok { l with index := ix' }) := by
  unfold Coll.insertCore insState
  simp only [hs, (insertOrUpdate_ok_iff.mp hr).1, hr]
  rfl

theorem insState_mem (c : Coll) (l : Loaded) (o : Obj) (ix' : ObjIndex) (commit : Bool) :
    (insState c l o ix' commit).mem = some { l with index := ix' } := by
  simp only [insState, apply_ite Coll.mem, commit_mem, setMem_mem, ite_self]

theorem insState_pending (c : Coll) (l : Loaded) (o : Obj) (ix' : ObjIndex) (commit : Bool) :
    (insState c l o ix' commit).pending = if l.settings.async.isSome then c.pending.put o else c.pending := by
  simp only [insState, apply_ite Coll.pending, commit_pending, setMem_pending, fs_pending, ite_self]

theorem insState_files (c : Coll) (l : Loaded) (o : Obj) (ix' : ObjIndex) (commit : Bool) :
    (insState c l o ix' commit).disk.files =
      if l.settings.async.isSome then c.disk.files else c.disk.files.put o := by
  simp only [insState, apply_ite Coll.disk, apply_ite Disk.files, commit_files, setMem_disk,
    fs_writeObj_files, fs_mkdir_files, ite_self]

theorem insState_cache (c : Coll) (l : Loaded) (o : Obj) (ix' : ObjIndex) (commit : Bool) :
    (insState c l o ix' commit).cache = if l.settings.mustCache then c.cache.put o else c.cache := by
  simp only [insState, apply_ite Coll.cache, commit_cache, setMem_cache, fs_cache, ite_self]

theorem insState_live (c : Coll) (l : Loaded) (o : Obj) (ix' : ObjIndex) (commit : Bool) :
    (insState c l o ix' commit).live = c.live := by
  simp only [insState, apply_ite Coll.live, commit_live, fs_live, setMem_live, ite_self]

/-- asynchronous mode: the object goes to the pending store and nothing is committed
    (`Reopen.insState_sync` is the synchronous half) -/
theorem insState_async {c : Coll} {l : Loaded} (ha : l.settings.async.isSome = true) (o : Obj) (ix' : ObjIndex)
    (commit : Bool) :
    (insState c l o ix' commit).disk = c.disk ∧ (insState c l o ix' commit).log = c.log := by
  unfold insState
  simp only [ha, if_true, Bool.not_true, Bool.false_and, Bool.false_eq_true, if_false]
  split <;> exact ⟨rfl, rfl⟩

theorem insState_inv' {c : Coll} {l : Loaded} {o : Obj} {ix' : ObjIndex} (h : Inv' c l) (ht : o.Typed l.index)
    (hr : l.index.insertOrUpdate o = .ok ix') (commit : Bool) :
    Inv' (insState c l o ix' commit) { l with index := ix' } ∧
      (insState c l o ix' commit).view = updView c.view o.uuid (some o) :=
  inv_insert h ht hr (insState_mem c l o _ commit) (insState_pending c l o _ commit)
    (insState_files c l o _ commit) (insState_cache c l o _ commit)

theorem insertCore_accept_eq {E : Env} {c : Coll} {l : Loaded} {o : Obj} (commit : Bool) (h : Inv' c l)
    (ht : o.Typed l.index) (hs : E.serialisable o = true) (hu : l.index.satisfyAll o = Res.ok ()) :
    ∃ ix', l.index.insertOrUpdate o = .ok ix' ∧
      Coll.insertCore E c l o commit = (insState c l o ix' commit, Res.ok { l with index := ix' }) ∧
      Inv' (insState c l o ix' commit) { l with index := ix' } ∧
      (insState c l o ix' commit).view = updView c.view o.uuid (some o) :=
  have hr := insertOrUpdate_of_ok hu
  ⟨_, hr, insertCore_eq commit hs hr, insState_inv' h ht hr commit⟩

theorem insertCore_accept_partial {E : Env} {c : Coll} {l : Loaded} {o : Obj} (commit : Bool) (h : Inv c l)
    (hoff : l.settings.mustCache = false → c.cache = [])
    (ht : o.Typed l.index) (hs : E.serialisable o = true) (hu : l.index.satisfyAll o = Res.ok ()) :
    ∃ c' l', Coll.insertCore E c l o commit = (c', Res.ok l') ∧ Inv c' l' ∧
      c'.view = updView c.view o.uuid (some o) ∧ l'.settings = l.settings ∧ l'.descs = l.descs := by
  obtain ⟨_, _, he, hi, hv⟩ := insertCore_accept_eq commit ⟨h, hoff⟩ ht hs hu
  exact ⟨_, _, he, hi.toInv, hv, rfl, rfl⟩

/-! ### the public insert -/

/-- the object `InsertOrUpdate` stores: transformed, canonicalised, identified -/
def storedObj (E : Env) (l : Loaded) (o : Obj) (fresh : Nat) : Obj :=
  assignNew (E.canon l.descs (E.transform o)) fresh

theorem assignNew_of_ne {o : Obj} (h : o.uuid ≠ 0) (fresh : Nat) : assignNew o fresh = o := by
  unfold assignNew
  rw [if_neg (by simpa using h)]

theorem assignNew_of_eq {o : Obj} (h : o.uuid = 0) (fresh : Nat) : assignNew o fresh = { o with uuid := fresh } := by
  unfold assignNew
  rw [if_pos (by simpa using h)]

theorem insert_invalid {E : Env} {c : Coll} {l : Loaded} (h : Inv c l) (o : Obj) (fresh : Nat)
    (hv : E.validate (E.canon l.descs (E.transform o)) = false) : c.insert E o fresh = (c, Res.err Err.invalid) := by
  unfold Coll.insert
  rw [schema_of_inv h]
  simp only [hv, Bool.not_false, if_true]

theorem insert_valid_eq {E : Env} {c : Coll} {l : Loaded} (h : Inv c l) (o : Obj) (fresh : Nat)
    (hv : E.validate (E.canon l.descs (E.transform o)) = true) :
    c.insert E o fresh =
      match Coll.insertCore E c l (storedObj E l o fresh) true with
      | (c, .ok _) => (c, .ok ())
      | (c, .err e) => (c, .err e)
      | (c, .panic) => (c, .panic) := by
  unfold Coll.insert
  rw [schema_of_inv h]
  simp only [hv, Bool.not_true, Bool.false_eq_true, if_false]
  rfl

theorem insert_cases {E : Env} {c : Coll} {l : Loaded} (h : Inv c l) (o : Obj) (fresh : Nat)
    (ht : (storedObj E l o fresh).Typed l.index) :
    (E.validate (E.canon l.descs (E.transform o)) = false ∧ c.insert E o fresh = (c, Res.err Err.invalid)) ∨
    (E.validate (E.canon l.descs (E.transform o)) = true ∧ E.serialisable (storedObj E l o fresh) = false ∧
      c.insert E o fresh = (c, Res.err Err.other)) ∨
    (E.validate (E.canon l.descs (E.transform o)) = true ∧ E.serialisable (storedObj E l o fresh) = true ∧
      l.index.satisfyAll (storedObj E l o fresh) = Res.err Err.unique ∧
      c.insert E o fresh = (c, Res.err Err.unique)) ∨
    (E.validate (E.canon l.descs (E.transform o)) = true ∧ E.serialisable (storedObj E l o fresh) = true ∧
      l.index.satisfyAll (storedObj E l o fresh) = Res.ok () ∧
      ∃ ix', l.index.insertOrUpdate (storedObj E l o fresh) = .ok ix' ∧
        c.insert E o fresh = (insState c l (storedObj E l o fresh) ix' true, Res.ok ())) := by
  cases hv : E.validate (E.canon l.descs (E.transform o)) with
  | false => exact Or.inl ⟨rfl, insert_invalid h o fresh hv⟩
  | true =>
    have hi := insert_valid_eq h o fresh hv
    cases hs : E.serialisable (storedObj E l o fresh) with
    | false =>
      refine Or.inr (Or.inl ⟨rfl, rfl, ?_⟩)
      rw [hi, insertCore_reject_serial true hs]
    | true =>
      rcases satisfyAll_ok_or_unique ht.hasVal with hu | hu
      · refine Or.inr (Or.inr (Or.inr ⟨rfl, rfl, hu, _, insertOrUpdate_of_ok hu, ?_⟩))
        rw [hi, insertCore_eq true hs (insertOrUpdate_of_ok hu)]
      · refine Or.inr (Or.inr (Or.inl ⟨rfl, rfl, hu, ?_⟩))
        rw [hi, insertCore_reject_unique true hs hu]

theorem insert_outcome {E : Env} {c : Coll} {l : Loaded} (h : Inv c l) (o : Obj) (fresh : Nat)
    (ht : (storedObj E l o fresh).Typed l.index) :
    (∃ e, c.insert E o fresh = (c, Res.err e)) ∨
    ∃ ix', E.validate (E.canon l.descs (E.transform o)) = true ∧ E.serialisable (storedObj E l o fresh) = true ∧
      l.index.satisfyAll (storedObj E l o fresh) = Res.ok () ∧
      l.index.insertOrUpdate (storedObj E l o fresh) = .ok ix' ∧
      c.insert E o fresh = (insState c l (storedObj E l o fresh) ix' true, Res.ok ()) := by
  rcases insert_cases h o fresh ht with ⟨_, hi⟩ | ⟨_, _, hi⟩ | ⟨_, _, _, hi⟩ | ⟨hv, hs, hu, ix', hix, hi⟩
  · exact Or.inl ⟨_, hi⟩
  · exact Or.inl ⟨_, hi⟩
  · exact Or.inl ⟨_, hi⟩
  · exact Or.inr ⟨ix', hv, hs, hu, hix, hi⟩

theorem insert_rejected_frame {E : Env} {c : Coll} {l : Loaded} (h : Inv c l) (o : Obj) (fresh : Nat)
    (ht : (storedObj E l o fresh).Typed l.index) (e : Err)
    (hr : (c.insert E o fresh).2 = Res.err e) : (c.insert E o fresh).1 = c := by
  rcases insert_outcome h o fresh ht with ⟨_, hi⟩ | ⟨_, _, _, _, _, hi⟩
  · rw [hi]
  · rw [hi] at hr
    cases hr

theorem insert_ok_of {E : Env} {c : Coll} {l : Loaded} (h : Inv c l) (o : Obj) (fresh : Nat)
    (hv : E.validate (E.canon l.descs (E.transform o)) = true)
    (hs : E.serialisable (storedObj E l o fresh) = true)
    (hu : l.index.satisfyAll (storedObj E l o fresh) = .ok ()) : (c.insert E o fresh).2 = .ok () := by
  rw [insert_valid_eq h o fresh hv, insertCore_eq true hs (insertOrUpdate_of_ok hu)]

theorem insert_accepted_eq {E : Env} {c : Coll} {l : Loaded} (h : Inv' c l) (o : Obj) (fresh : Nat)
    (ht : (storedObj E l o fresh).Typed l.index) (hr : (c.insert E o fresh).2 = Res.ok ()) :
    ∃ ix', l.index.insertOrUpdate (storedObj E l o fresh) = .ok ix' ∧
      c.insert E o fresh = (insState c l (storedObj E l o fresh) ix' true, .ok ()) ∧
      Inv' (insState c l (storedObj E l o fresh) ix' true) { l with index := ix' } ∧
      (insState c l (storedObj E l o fresh) ix' true).view =
        updView c.view (storedObj E l o fresh).uuid (some (storedObj E l o fresh)) ∧
      E.validate (E.canon l.descs (E.transform o)) = true := by
  rcases insert_outcome h.toInv o fresh ht with ⟨_, hi⟩ | ⟨ix', hv, _, _, hix, hi⟩
  · rw [hi] at hr
    cases hr
  · obtain ⟨hI, hV⟩ := insState_inv' h ht hix true
    exact ⟨ix', hix, hi, hI, hV, hv⟩

theorem insert_accepted' {E : Env} {c : Coll} {l : Loaded} (h : Inv' c l) (o : Obj) (fresh : Nat)
    (ht : (assignNew (E.canon l.descs (E.transform o)) fresh).Typed l.index)
    (hr : (c.insert E o fresh).2 = Res.ok ()) :
    ∃ l', Inv' (c.insert E o fresh).1 l' ∧
      (c.insert E o fresh).1.view = updView c.view (assignNew (E.canon l.descs (E.transform o)) fresh).uuid
                                       (some (assignNew (E.canon l.descs (E.transform o)) fresh)) ∧
      E.validate (E.canon l.descs (E.transform o)) = true := by
  obtain ⟨_, _, he, h1, h2, h3⟩ := insert_accepted_eq h o fresh ht hr
  rw [he]
  exact ⟨_, h1, h2, h3⟩

theorem insert_accepted_view {E : Env} {c : Coll} {l : Loaded} (h : Inv' c l) (o : Obj) (fresh : Nat)
    (ht : (storedObj E l o fresh).Typed l.index) (hr : (c.insert E o fresh).2 = Res.ok ()) :
    (c.insert E o fresh).1.view (storedObj E l o fresh).uuid = some (storedObj E l o fresh) := by
  obtain ⟨_, _, hv, _⟩ := insert_accepted' h o fresh ht hr
  rw [hv]
  exact if_pos rfl

theorem insert_accepted_partial {E : Env} {c : Coll} {l : Loaded} (h : Inv c l)
    (hoff : l.settings.mustCache = false → c.cache = []) (o : Obj) (fresh : Nat)
    (ht : (assignNew (E.canon l.descs (E.transform o)) fresh).Typed l.index)
    (hr : (c.insert E o fresh).2 = Res.ok ()) :
    ∃ l', Inv (c.insert E o fresh).1 l' ∧
      (c.insert E o fresh).1.view = updView c.view (assignNew (E.canon l.descs (E.transform o)) fresh).uuid
                                       (some (assignNew (E.canon l.descs (E.transform o)) fresh)) ∧
      E.validate (E.canon l.descs (E.transform o)) = true := by
  obtain ⟨l', h1, h2⟩ := insert_accepted' ⟨h, hoff⟩ o fresh ht hr
  exact ⟨l', h1.toInv, h2⟩

/-! ### delete -/

def delState (c : Coll) (l : Loaded) (u : Nat) : Coll :=
  let c1 := if l.settings.mustCache then { c with cache := c.cache.erase u, pending := c.pending.erase u } else c
  let l' : Loaded := { l with index := l.index.deleteByUUID u }
  let c2 := c1.setMem l'
  let c3 := if c2.disk.files.has u then c2.fs (.rmObj u) else c2
  c3.commit l'

theorem delete_eq {c : Coll} {l : Loaded} (h : Inv c l) (u : Nat) :
    c.delete u = (delState c l u, Res.ok ()) := by
  unfold Coll.delete
  rw [schema_of_inv h]
  rfl

/-- the cache flag decides about `cache` and `pending` only: to the disk, the log and `live`, `delState` does
    what it does to `c` -/
theorem delState_eq (c : Coll) (l : Loaded) (u : Nat) :
    ∃ c2 : Coll, delState c l u =
        (if c2.disk.files.has u then c2.fs (.rmObj u) else c2).commit { l with index := l.index.deleteByUUID u } ∧
      c2.disk = c.disk ∧ c2.log = c.log ∧ c2.live = c.live := by
  unfold delState
  cases l.settings.mustCache <;> exact ⟨_, rfl, rfl, rfl, rfl⟩

theorem delState_mem (c : Coll) (l : Loaded) (u : Nat) :
    (delState c l u).mem = some { l with index := l.index.deleteByUUID u } := by
  simp only [delState, apply_ite Coll.mem, commit_mem, fs_mem, setMem_mem, ite_self]

theorem delState_cache (c : Coll) (l : Loaded) (u : Nat) :
    (delState c l u).cache = if l.settings.mustCache then c.cache.erase u else c.cache := by
  simp only [delState, apply_ite Coll.cache, commit_cache, fs_cache, setMem_cache, ite_self]

theorem delState_pending (c : Coll) (l : Loaded) (u : Nat) :
    (delState c l u).pending = if l.settings.mustCache then c.pending.erase u else c.pending := by
  simp only [delState, apply_ite Coll.pending, commit_pending, fs_pending, setMem_pending, ite_self]

theorem delState_files (c : Coll) (l : Loaded) (u : Nat) :
    (delState c l u).disk.files = c.disk.files.erase u := by
  obtain ⟨c2, he, hd, -, -⟩ := delState_eq c l u
  rw [he, commit_files, ← hd]
  split
  · exact fs_rmObj_files c2 u
  · exact (OMap.erase_of_not_has (Bool.eq_false_iff.mpr ‹_›)).symm

theorem inv_delete {c c' : Coll} {l : Loaded} (h : Inv' c l) (u : Nat)
    (hm : c'.mem = some { l with index := l.index.deleteByUUID u }) (hp : c'.pending = c.pending.erase u)
    (hf : c'.disk.files = c.disk.files.erase u) (hc : c'.cache = c.cache.erase u) :
    Inv' c' { l with index := l.index.deleteByUUID u } ∧ c'.view = updView c.view u none := by
  have hv := view_erase hp hf
  have I := h.indexes.delete u
  refine ⟨{
    mem := hm, wf := I.wf, refl := hv ▸ I.refl, dom := hv ▸ I.dom,
    typed := hv ▸ typed_updView h.typed (deleteByUUID_typed _ u) (fun _ e => nomatch e),
    cacheOk := ?_, pendCached := ?_, syncNoPend := ?_, flusher := h.flusher,
    keyedF := hf ▸ h.keyedF.erase u, keyedP := hp ▸ h.keyedP.erase u, keyedC := hc ▸ h.keyedC.erase u,
    cacheOff := ?_ }, hv⟩
  · rw [hc, hv, OMap.get?_erase_fn]
    exact updView_mono h.cacheOk _ _
  · rw [hp, hc, OMap.get?_erase_fn, OMap.get?_erase_fn]
    exact updView_mono h.pendCached _ _
  · intro hn
    rw [hp, h.syncNoPend hn]
    rfl
  · intro (hmc : l.settings.mustCache = false)
    rw [hc, h.cacheOff hmc]
    rfl

theorem delState_inv' {c : Coll} {l : Loaded} (h : Inv' c l) (u : Nat) :
    Inv' (delState c l u) { l with index := l.index.deleteByUUID u } ∧
      (delState c l u).view = updView c.view u none :=
  inv_delete h u (delState_mem c l u)
    ((delState_pending c l u).trans (OMap.ite_erase u fun hmc => h.syncNoPend (mustCache_false hmc).2))
    (delState_files c l u) ((delState_cache c l u).trans (OMap.ite_erase u h.cacheOff))

/-- the private delete on a consistent handle: `Delete` (`delState`) without its commit, which `Inv'` does
    not look at -/
theorem deleteCore_spec {c : Coll} {l : Loaded} (h : Inv' c l) (u : Nat) :
    ∃ c', c.deleteCore l u = (c', .ok { l with index := l.index.deleteByUUID u }) ∧
      Inv' c' { l with index := l.index.deleteByUUID u } ∧ c'.view = updView c.view u none := by
  have hd : delState c l u = (c.deleteCore l u).1.commit { l with index := l.index.deleteByUUID u } := rfl
  obtain ⟨hi, hv⟩ := delState_inv' h u
  rw [hd] at hi hv
  exact ⟨(c.deleteCore l u).1, rfl, (Inv'.commit_iff _).mp hi, (view_commit _ _).symm.trans hv⟩

theorem delete_spec' {c : Coll} {l : Loaded} (h : Inv' c l) (u : Nat) :
    ∃ l', (c.delete u).2 = Res.ok () ∧ Inv' (c.delete u).1 l' ∧ (c.delete u).1.view = updView c.view u none := by
  rw [delete_eq h.toInv u]
  exact ⟨_, rfl, delState_inv' h u⟩

theorem delete_spec_partial {c : Coll} {l : Loaded} (h : Inv c l)
    (hoff : l.settings.mustCache = false → c.cache = []) (u : Nat) :
    ∃ l', (c.delete u).2 = Res.ok () ∧ Inv (c.delete u).1 l' ∧ (c.delete u).1.view = updView c.view u none := by
  obtain ⟨l', h1, h2, h3⟩ := delete_spec' ⟨h, hoff⟩ u
  exact ⟨l', h1, h2.toInv, h3⟩

/-! ### why `Inv` alone is not enough for the write path

  Synchronous, uncached collection (`mustCache = false`) holding object 5 in its file, with a stale
  copy of it in the (never read) cache.  `Inv` holds.  Deleting 5, or overwriting 5 with another
  value, leaves the cache entry behind, so `Inv.cacheOk` fails afterwards. -/

namespace Counter

def o5 : Obj := { uuid := 5, shape := "", vals := [] }
def o5' : Obj := { uuid := 5, shape := "x", vals := [] }
def l0 : Loaded := { descs := [], settings := {}, index := { next := 1, ids := [(0, 5)], fields := [] } }
def c0 : Coll := { live := [], disk := { dir := true, files := [(5, o5)] }, mem := some l0, cache := [(5, o5)] }
def E0 : Env := { up := id, lo := id, transform := id, validate := fun _ => true, compile := fun _ => none,
                  serialisable := fun _ => true }

/-- `c0` is the empty collection after `o5` was accepted, with `o5` cached as well (and its log dropped) -/
theorem inv0 : Inv c0 l0 := by
  let lE : Loaded := { l0 with index := ObjIndex.new [] }
  have hE : Inv' { live := [], mem := some lE } lE := inv_empty rfl rfl rfl rfl rfl fun h => nomatch h
  have hI := (insState_inv' (o := o5) (ix' := l0.index) hE (fun _ h => nomatch h) rfl false).1
  exact (inv_cache_put hI.toInv (o := o5) rfl).congr rfl rfl rfl rfl

theorem stale {c c' : Coll} {l' : Loaded} {u : Nat} {o : Obj} {x : Option Obj} (hi : Inv c' l')
    (hc : c'.cache.get? u = some o) (hv : c'.view = updView c.view u x) (hx : x ≠ some o) : False := by
  have := hi.cacheOk u o hc
  rw [hv, updView_apply, if_pos rfl] at this
  exact hx this

end Counter

open Counter in
theorem delete_spec_counterexample :
    ∃ (c : Coll) (l : Loaded) (u : Nat), Inv c l ∧
      ¬ ∃ l', (c.delete u).2 = Res.ok () ∧ Inv (c.delete u).1 l' ∧ (c.delete u).1.view = updView c.view u none := by
  refine ⟨c0, l0, 5, inv0, ?_⟩
  rintro ⟨l', _, hi, hv⟩
  exact stale (o := o5) hi rfl hv (fun h => nomatch h)

open Counter in
theorem insertCore_accept_counterexample :
    ∃ (E : Env) (c : Coll) (l : Loaded) (o : Obj) (commit : Bool), Inv c l ∧ o.Typed l.index ∧
      E.serialisable o = true ∧ l.index.satisfyAll o = Res.ok () ∧
      ¬ ∃ c' l', Coll.insertCore E c l o commit = (c', Res.ok l') ∧ Inv c' l' ∧
          c'.view = updView c.view o.uuid (some o) ∧ l'.settings = l.settings ∧ l'.descs = l.descs := by
  refine ⟨E0, c0, l0, o5', true, inv0, (fun fi hfi => by cases hfi), rfl, rfl, ?_⟩
  rintro ⟨c', l', he, hi, hv, _⟩
  obtain rfl : (Coll.insertCore E0 c0 l0 o5' true).1 = c' := by rw [he]
  exact stale (u := 5) (o := o5) hi rfl hv (by decide)

open Counter in
theorem insert_accepted_counterexample :
    ∃ (E : Env) (c : Coll) (l : Loaded) (o : Obj) (fresh : Nat), Inv c l ∧
      (assignNew (E.canon l.descs (E.transform o)) fresh).Typed l.index ∧ (c.insert E o fresh).2 = Res.ok () ∧
      ¬ ∃ l', Inv (c.insert E o fresh).1 l' ∧
          (c.insert E o fresh).1.view = updView c.view (assignNew (E.canon l.descs (E.transform o)) fresh).uuid
                                           (some (assignNew (E.canon l.descs (E.transform o)) fresh)) ∧
          E.validate (E.canon l.descs (E.transform o)) = true := by
  refine ⟨E0, c0, l0, o5', 7, inv0, (fun fi hfi => by cases hfi), rfl, ?_⟩
  rintro ⟨l', hi, hv, _⟩
  exact stale (u := 5) (o := o5) hi rfl hv (by decide)

end Sod
