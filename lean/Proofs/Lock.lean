/-
  Proofs/Lock.lean — proofs about the reader/writer-lock machine of `SodModel/Lock.lean` (C08, C09).

  Every step replaces one thread `t` by a thread `t'` it advances to, `Adv (Free s i) t t'`: it
  takes its head action — an acquisition only if the others leave the lock free — or announces
  itself (`PStep.adv`).  What a step does is proved of `Adv` — it keeps `TOK` (`tok_adv`), lowers the
  weight (`tw_adv`), holds what it held or was free to take (`Adv.held`) — and carried to the state
  `s.set i t'` by facts of `List.set` (`Proofs/ListSet.lean`).
-/
import SodModel.Lock
import Proofs.ListSet

namespace Sod.Lock

/-! ### 1. the discipline, action by action -/

theorem disc_cons {held : Held} {a : Act} {rest : List Act} :
    Disc held (a :: rest) ↔ stepOK (held, a) = true ∧ Disc (after held a) rest := by
  cases a with
  | acq l m => exact and_congr_left' (by simp only [stepOK, List.all_eq_true, decide_eq_true_eq])
  | rel l m => exact and_congr_left' List.contains_iff_mem.symm

theorem discB_cons {held : Held} {a : Act} {rest : List Act} :
    discB held (a :: rest) = (stepOK (held, a) && discB (after held a) rest) := by
  cases a <;> rfl

theorem discB_iff (held : Held) (as : List Act) : discB held as = true ↔ Disc held as := by
  induction as generalizing held with
  | nil => exact List.isEmpty_iff
  | cons a rest ih => rw [discB_cons, Bool.and_eq_true, ih, disc_cons]

theorem disc_of_steps (held : Held) (p : List Act)
    (hs : ∀ st ∈ stepsOf held p, stepOK st = true) (hf : finalOf held p = []) : Disc held p := by
  induction p generalizing held with
  | nil => exact hf
  | cons a rest ih =>
    exact disc_cons.2 ⟨hs _ List.mem_cons_self,
      ih _ (fun st hst => hs st (List.mem_cons_of_mem _ hst)) hf⟩

theorem disc_of_covered (e : EntryFacts) (he : e.ok = true) (p : List Act) (hc : e.covers p) : Disc [] p := by
  unfold EntryFacts.ok at he
  rw [Bool.and_eq_true, List.all_eq_true, List.all_eq_true] at he
  exact disc_of_steps [] p (fun st hst => he.1 st (hc.1 st hst))
    (List.isEmpty_iff.1 (he.2 _ hc.2))

/-! ### 2. what a step does to the thread that takes it; a guaranteed step is a step -/

/-- nobody else stands in the way of granting `l` in mode `m` to thread `i` -/
def Free (s : State) (i : Nat) (l : LockId) (m : Mode) : Prop :=
  ∀ (j : Nat) (u : Thread), j ≠ i → s[j]? = some u → ¬ holdsW u l ∧ (m = .W → ¬ holds u l)

inductive Adv (free : LockId → Mode → Prop) (t : Thread) : Thread → Prop
  | act (a : Act) (rest : List Act) : t.todo = a :: rest → (∀ l m, a = .acq l m → free l m) →
      Adv free t { todo := rest, held := after t.held a, pend := false }
  | announce (l : LockId) (rest : List Act) : t.todo = .acq l .W :: rest → t.pend = false →
      Adv free t { t with pend := true }

theorem PStep.adv {s s' : State} (st : PStep s s') :
    ∃ i t t', s[i]? = some t ∧ Adv (Free s i) t t' ∧ s' = s.set i t' := by
  cases st with
  | release i t l m rest hi ht => exact ⟨i, t, _, hi, .act _ rest ht (fun _ _ e => nomatch e), rfl⟩
  | announce i t l rest hi ht hp => exact ⟨i, t, _, hi, .announce l rest ht hp, rfl⟩
  | grantW i t l rest hi ht hg =>
    refine ⟨i, t, _, hi, .act _ rest ht fun _ _ e j u hj hu => ?_, rfl⟩
    cases e
    exact ⟨fun w => hg j u hj hu ⟨_, w⟩, fun _ => hg j u hj hu⟩
  | grantR i t l rest hi ht hg =>
    refine ⟨i, t, _, hi, .act _ rest ht fun _ _ e j u hj hu => ?_, rfl⟩
    cases e
    exact ⟨hg j u hj hu, nofun⟩

theorem Adv.held {free : LockId → Mode → Prop} {t t' : Thread} (a : Adv free t t') {l : LockId}
    {m : Mode} (h : (l, m) ∈ t'.held) : (l, m) ∈ t.held ∨ free l m := by
  cases a with
  | announce => exact .inl h
  | act a rest ht hf =>
    cases a with
    | rel l' m' => exact .inl (List.mem_of_mem_erase h)
    | acq l' m' =>
      rcases List.mem_cons.1 h with e | h
      · cases e
        exact .inr (hf l m rfl)
      · exact .inl h

theorem gstep_pstep {s s' : State} (g : GStep s s') : PStep s s' := by
  cases g with
  | release i t l m rest hi ht => exact PStep.release s i t l m rest hi ht
  | announce i t l rest hi ht hp => exact PStep.announce s i t l rest hi ht hp
  | grantW i t l rest hi ht hp hg => exact PStep.grantW s i t l rest hi ht hg
  | grantR i t l rest hi ht hg _ => exact PStep.grantR s i t l rest hi ht hg

/-! ### 3. the thread invariant `TOK` -/

theorem tok_initial {s : State} (h : Initial s) : ∀ t ∈ s, TOK t := by
  intro t ht
  obtain ⟨hh, hp, hd⟩ := h t ht
  exact ⟨hh ▸ hd, fun h' => absurd (hp.symm.trans h') Bool.false_ne_true⟩

theorem tok_adv {free : LockId → Mode → Prop} {t t' : Thread} (h : TOK t) (a : Adv free t t') :
    TOK t' := by
  cases a with
  | act a rest ht _ => exact ⟨(disc_cons.1 (ht ▸ h.disc)).2, nofun⟩
  | announce l rest ht hp => exact ⟨h.disc, fun _ => ⟨l, rest, ht⟩⟩

theorem tok_step {s s' : State} (h : ∀ t ∈ s, TOK t) (st : PStep s s') : ∀ t ∈ s', TOK t := by
  obtain ⟨i, t, t', hi, a, rfl⟩ := st.adv
  intro u hu
  rcases List.mem_or_eq_of_mem_set hu with hu | rfl
  · exact h u hu
  · exact tok_adv (h t (List.mem_of_getElem? hi)) a

theorem tok_reach {s0 s : State} (h0 : Initial s0) (r : Reach s0 s) : ∀ t ∈ s, TOK t := by
  induction r with
  | init => exact tok_initial h0
  | step s s' _ st ih => exact tok_step ih st

theorem tok_gstep {s s' : State} (h : ∀ t ∈ s, TOK t) (g : GStep s s') : ∀ t ∈ s', TOK t :=
  tok_step h (gstep_pstep g)

/-! ### 4. C09: no deadlock -/

def want (t : Thread) : Option LockId :=
  match t.todo with
  | .acq l _ :: _ => some l
  | _ => none

theorem want_acq {t : Thread} {l : LockId} {m : Mode} {rest : List Act}
    (h : t.todo = .acq l m :: rest) : want t = some l := by
  simp only [want, h]

theorem held_nonempty_unfinished {t : Thread} (h : TOK t) (hh : t.held ≠ []) : t.todo ≠ [] :=
  fun h0 => hh (h0 ▸ h.disc :)

theorem held_lt_want {t : Thread} (h : TOK t) {l : LockId} {m : Mode} {rest : List Act}
    (ht : t.todo = .acq l m :: rest) {x : LockId} (hx : holds t x) : rank x < rank l := by
  obtain ⟨m', hm'⟩ := hx
  exact (ht ▸ h.disc :).1 (x, m') hm'

theorem exists_max_by {α : Type} (f : α → Nat) (ws : List α) (h : ws ≠ []) :
    ∃ x ∈ ws, ∀ y ∈ ws, f y ≤ f x := by
  cases hm : (ws.map f).max? with
  | none => exact absurd (List.map_eq_nil_iff.1 (List.max?_eq_none_iff.1 hm)) h
  | some r =>
    obtain ⟨hr, hle⟩ := List.max?_eq_some_iff.1 hm
    obtain ⟨x, hx, rfl⟩ := List.mem_map.1 hr
    exact ⟨x, hx, fun y hy => hle _ (List.mem_map_of_mem hy)⟩

/-- Suppose no step is guaranteed.  No thread can release or announce, so all unfinished threads
    wait; a wanted lock `n` of maximal rank is free, because whoever held it would be waiting for a
    lock of higher rank; so it is granted to a writer waiting for it, or else to the reader that
    wants it. -/
theorem no_deadlock (s : State) (hok : ∀ t ∈ s, TOK t) (hun : ∃ t ∈ s, t.todo ≠ []) :
    ∃ s', GStep s s' := by
  apply Classical.byContradiction
  intro hno
  have hwait : ∀ t ∈ s, t.todo ≠ [] →
      ∃ l m rest, t.todo = .acq l m :: rest ∧ (m = .W → t.pend = true) := by
    intro t ht hne
    obtain ⟨i, hi⟩ := List.mem_iff_getElem?.1 ht
    match htd : t.todo with
    | [] => exact absurd htd hne
    | .rel l m :: rest => exact absurd ⟨_, GStep.release s i t l m rest hi htd⟩ hno
    | .acq l .R :: rest => exact ⟨l, .R, rest, rfl, nofun⟩
    | .acq l .W :: rest =>
      refine ⟨l, .W, rest, rfl, fun _ => ?_⟩
      cases hp : t.pend
      · exact absurd ⟨_, GStep.announce s i t l rest hi htd hp⟩ hno
      · rfl
  obtain ⟨t1, ht1, hne1⟩ := hun
  obtain ⟨l1, _, _, hl1, -⟩ := hwait t1 ht1 hne1
  obtain ⟨n, hn, hle⟩ := exists_max_by rank (s.filterMap want)
    (List.ne_nil_of_mem (List.mem_filterMap.2 ⟨t1, ht1, want_acq hl1⟩))
  obtain ⟨t0, ht0, hw0⟩ := List.mem_filterMap.1 hn
  have hfree : ∀ (j : Nat) (u : Thread), s[j]? = some u → ¬ holds u n := by
    intro j u hj hh
    have hu := List.mem_of_getElem? hj
    obtain ⟨l, m, rest, hul, -⟩ := hwait u hu
      (held_nonempty_unfinished (hok u hu) (hh.elim fun _ => List.ne_nil_of_mem))
    exact Nat.lt_irrefl _ (Nat.lt_of_lt_of_le (held_lt_want (hok u hu) hul hh)
      (hle l (List.mem_filterMap.2 ⟨u, hu, want_acq hul⟩)))
  have hpw : ∀ (j : Nat) (u : Thread), s[j]? = some u → ¬ pendingOn u n :=
    fun j u hj ⟨hp, rest, hu⟩ => hno ⟨_, GStep.grantW s j u n rest hj hu hp fun k v _ => hfree k v⟩
  obtain ⟨l, m, rest, h0, hpend⟩ := hwait t0 ht0 (fun h => by simp only [want, h, reduceCtorEq] at hw0)
  cases (want_acq h0).symm.trans hw0
  obtain ⟨i0, hi0⟩ := List.mem_iff_getElem?.1 ht0
  cases m with
  | W => exact hpw i0 t0 hi0 ⟨hpend rfl, rest, h0⟩
  | R => exact hno ⟨_, GStep.grantR s i0 t0 n rest hi0 h0 (fun j u _ hj hw => hfree j u hj ⟨.W, hw⟩) hpw⟩

theorem C09_no_deadlock {s0 s : State} (h0 : Initial s0) (r : Reach s0 s)
    (hun : ∃ t ∈ s, t.todo ≠ []) : ∃ s', GStep s s' :=
  no_deadlock s (tok_reach h0 r) hun

/-! ### 5. C09: every call returns -/

/-- weight of one thread in `work`: the lambda there (SodModel/Lock.lean) verbatim, so that
    `gstep_work` type-checks by unfolding -/
def tw (t : Thread) : Nat := 2 * t.todo.length + (if t.pend then 0 else 1)

/-- `2·|rest| + 1 < 2·(|rest| + 1) ≤` the weight before; an announcement takes the `1` away -/
theorem tw_adv {free : LockId → Mode → Prop} {t t' : Thread} (a : Adv free t t') : tw t' < tw t := by
  unfold tw
  cases a with
  | act a rest ht _ =>
    rw [ht]
    exact Nat.lt_add_right _ (Nat.lt_succ_self _)
  | announce l rest ht hp =>
    rw [hp]
    exact Nat.lt_succ_self _

theorem gstep_work {s s' : State} (g : GStep s s') : work s' < work s := by
  obtain ⟨i, t, t', hi, a, rfl⟩ := (gstep_pstep g).adv
  exact List.sum_map_set_lt tw hi (tw_adv a)

inductive GStar : State → State → Prop
  | refl (s : State) : GStar s s
  | tail {s s' s'' : State} : GStar s s' → GStep s' s'' → GStar s s''

theorem GStar.head {s s' s'' : State} (g : GStep s s') (r : GStar s' s'') : GStar s s'' := by
  induction r with
  | refl => exact GStar.tail (GStar.refl s) g
  | tail _ g' ih => exact GStar.tail ih g'

/-- C09: with `gstep_work` (executions of guaranteed steps are finite) and `no_deadlock` (they end
    only when all threads are finished), every call returns -/
theorem C09_all_return (s : State) (hok : ∀ t ∈ s, TOK t) :
    ∃ s', GStar s s' ∧ ∀ t ∈ s', t.todo = [] := by
  induction h : work s using Nat.strongRecOn generalizing s with
  | _ n ih =>
    by_cases hun : ∃ t ∈ s, t.todo ≠ []
    · obtain ⟨s1, g⟩ := no_deadlock s hok hun
      obtain ⟨s', hr, hfin⟩ := ih (work s1) (h ▸ gstep_work g) s1 (tok_gstep hok g) rfl
      exact ⟨s', GStar.head g hr, hfin⟩
    · exact ⟨s, GStar.refl s, fun t ht => Classical.byContradiction fun hne => hun ⟨t, ht, hne⟩⟩

theorem gstar_tok {s s' : State} (hok : ∀ t ∈ s, TOK t) (r : GStar s s') : ∀ t ∈ s', TOK t := by
  induction r with
  | refl => exact hok
  | tail _ g ih => exact tok_gstep ih g

theorem C09_maximal_finished {s s' : State} (hok : ∀ t ∈ s, TOK t) (r : GStar s s')
    (hmax : ¬ ∃ s'', GStep s' s'') : ∀ t ∈ s', t.todo = [] := by
  intro t ht
  exact Classical.byContradiction fun hne => hmax (no_deadlock s' (gstar_tok hok r) ⟨t, ht, hne⟩)

/-! ### 6. C08: mutual exclusion and race freedom -/

def Mutex (s : State) : Prop :=
  ∀ (i j : Nat) (t u : Thread), i ≠ j → s[i]? = some t → s[j]? = some u →
    ∀ l, holdsW t l → ¬ holds u l

/-- a lock the stepping thread held before excludes as before; one it was free to take is one the
    others do not hold in a conflicting mode -/
theorem mutex_step {s s' : State} (hm : Mutex s) (st : PStep s s') : Mutex s' := by
  obtain ⟨i, t, t', hi, a, rfl⟩ := st.adv
  refine List.forall₂_getElem?_set hm (fun b u hb hu l hw => ?_) fun c u hc hu l hw ⟨m, hh⟩ => ?_
  · exact (a.held hw).elim (hm i b t u (Ne.symm hb) hi hu l) fun g => (g b u hb hu).2 rfl
  · exact (a.held hh).elim (fun hh => hm c i u t hc hu hi l hw ⟨m, hh⟩) fun g => (g c u hc hu).1 hw

theorem mutex_initial {s : State} (h : Initial s) : Mutex s := by
  intro i j t u _ hi _ l hw
  have := (h t (List.mem_of_getElem? hi)).1
  unfold holdsW at hw
  rw [this] at hw
  cases hw

theorem C08_mutex {s0 s : State} (h0 : Initial s0) (r : Reach s0 s) :
    ∀ (i j : Nat) (t u : Thread) (l : LockId), i ≠ j → s[i]? = some t → s[j]? = some u →
      holdsW t l → ¬ holds u l := by
  have : Mutex s := by
    induction r with
    | init => exact mutex_initial h0
    | step s s' _ st ih => exact mutex_step ih st
  exact fun i j t u l hij hi hj => this i j t u hij hi hj l

theorem protectedPair_sound {a b : Access} (h : protectedPair a b = true) :
    ∃ c ma mb, (c, ma) ∈ a.held ∧ (c, mb) ∈ b.held ∧ (ma = Mode.W ∨ mb = Mode.W) := by
  simp only [protectedPair, List.any_eq_true, Bool.and_eq_true, Bool.or_eq_true, beq_iff_eq] at h
  obtain ⟨⟨c, ma⟩, hx, ⟨_, mb⟩, hy, rfl, hm⟩ := h
  exact ⟨c, ma, mb, hx, hy, hm⟩

theorem covered_sound (as : List Access) (hc : covered as = true) (a b : Access)
    (ha : a ∈ as) (hb : b ∈ as) (hcf : conflicting a b = true) :
    ∃ c ma mb, (c, ma) ∈ a.held ∧ (c, mb) ∈ b.held ∧ (ma = Mode.W ∨ mb = Mode.W) := by
  have h := List.all_eq_true.1 (List.all_eq_true.1 hc a ha) b hb
  rw [hcf] at h
  exact protectedPair_sound h

/-- only accesses to the same region conflict, so a table whose regions are below `n` may be
    checked region by region (the whole table at once costs a test per pair of its entries) -/
theorem covered_of_regions (n : Nat) (as : List Access) (hn : as.all (fun a => a.region < n) = true)
    (h : (List.range n).all (fun r => covered (as.filter (fun a => a.region == r))) = true) :
    covered as = true := by
  refine List.all_eq_true.2 fun a ha => List.all_eq_true.2 fun b hb => ?_
  cases hcf : conflicting a b with
  | false => rfl
  | true =>
    have hr : (b.region == a.region) = true :=
      beq_iff_eq.2 (beq_iff_eq.1 (Bool.and_eq_true_iff.1 hcf).1).symm
    have hc := List.all_eq_true.1 h a.region
      (List.mem_range.2 (of_decide_eq_true (List.all_eq_true.1 hn a ha)))
    have := List.all_eq_true.1 (List.all_eq_true.1 hc a (List.mem_filter.2 ⟨ha, beq_self_eq_true _⟩))
      b (List.mem_filter.2 ⟨hb, hr⟩)
    rwa [hcf] at this

/-- C08 race freedom: two threads of a reachable state cannot be inside conflicting covered
    accesses (on the same object, i.e. the same lock instances) at once. -/
theorem C08_race_free {s0 s : State} (h0 : Initial s0) (r : Reach s0 s) (as : List Access)
    (hc : covered as = true) (a b : Access) (ha : a ∈ as) (hb : b ∈ as)
    (hcf : conflicting a b = true)
    (i j : Nat) (t u : Thread) (hij : i ≠ j) (hi : s[i]? = some t) (hj : s[j]? = some u)
    (inst : Nat → Nat)
    (hta : ∀ c m, (c, m) ∈ a.held → ((c, inst c), m) ∈ t.held)
    (hub : ∀ c m, (c, m) ∈ b.held → ((c, inst c), m) ∈ u.held) : False := by
  obtain ⟨c, ma, mb, hca, hcb, hm⟩ := covered_sound as hc a b ha hb hcf
  have h1 := hta c ma hca
  have h2 := hub c mb hcb
  rcases hm with rfl | rfl
  · exact C08_mutex h0 r i j t u (c, inst c) hij hi hj h1 ⟨mb, h2⟩
  · exact C08_mutex h0 r j i u t (c, inst c) (Ne.symm hij) hj hi h2 ⟨ma, h1⟩

/-! ### 7. the hypotheses matter: a deadlocked state outside the discipline -/

/-- the pinned release's `All` → `Iterator`: a reader re-acquires the read lock it already
    holds while a writer is queued -/
def stuck : State :=
  [ { todo := [.acq (0,0) .R, .rel (0,0) .R, .rel (0,0) .R], held := [((0,0), .R)], pend := false },
    { todo := [.acq (0,0) .W, .rel (0,0) .W], held := [], pend := true } ]

theorem stuck_is_deadlocked : ¬ ∃ s', GStep stuck s' := by
  rintro ⟨s', g⟩
  cases g with
  | release i t l m rest hi ht =>
    rcases List.getElem?_pair hi with ⟨_, rfl⟩ | ⟨_, rfl⟩
    · cases ht
    · cases ht
  | announce i t l rest hi ht hp =>
    rcases List.getElem?_pair hi with ⟨_, rfl⟩ | ⟨_, rfl⟩
    · cases ht
    · cases hp
  | grantW i t l rest hi ht hp hg =>
    rcases List.getElem?_pair hi with ⟨_, rfl⟩ | ⟨rfl, rfl⟩
    · cases hp
    · cases ht
      exact hg 0 _ (by decide) rfl ⟨.R, List.mem_cons_self⟩
  | grantR i t l rest hi ht hg hq =>
    rcases List.getElem?_pair hi with ⟨rfl, rfl⟩ | ⟨_, rfl⟩
    · cases ht
      exact hq 1 _ rfl ⟨rfl, _, rfl⟩
    · cases ht

/-- the reader of `stuck` violates the discipline (re-acquires a lock it holds) -/
example : ¬ Disc [((0,0), Mode.R)] [.acq (0,0) .R, .rel (0,0) .R, .rel (0,0) .R] :=
  fun h => absurd ((discB_iff _ _).2 h) (by decide)

/-- so `stuck` fails the hypothesis of `no_deadlock`: the writer's `pend` is consistent, the reader
    is not `TOK` -/
example : ¬ ∀ t ∈ stuck, TOK t :=
  fun h => absurd ((discB_iff _ _).2 (h _ List.mem_cons_self).disc) (by decide)

/-! ### 8. the hypotheses can be met: a concrete initial state -/

/-- a reader of DB.l taking DB.sl, and a writer descending DB.l → objectStore → objectMap -/
def demo : State :=
  [ { todo := [.acq (0,0) .R, .acq (3,0) .W, .rel (3,0) .W, .rel (0,0) .R] },
    { todo := [.acq (0,0) .W, .acq (1,0) .W, .acq (2,0) .W,
               .rel (2,0) .W, .rel (1,0) .W, .rel (0,0) .W] } ]

theorem demo_initial : Initial demo :=
  List.forall_mem_cons.2 ⟨⟨rfl, rfl, (discB_iff _ _).mp (by decide)⟩,
    List.forall_mem_singleton.2 ⟨rfl, rfl, (discB_iff _ _).mp (by decide)⟩⟩

example : ∃ s', GStar demo s' ∧ ∀ t ∈ s', t.todo = [] :=
  C09_all_return demo (tok_initial demo_initial)

end Sod.Lock
