/-
  ObjIndex.lean — the object index (`object_index.go`): well-formedness is established by
  `new`, preserved by `insertOrUpdate` / `deleteByUUID` / `reload`; uniqueness is enforced
  exactly (C03); the index reflects the stored objects and a search returns exactly the
  matching objects (C02) in index order (C13); oids are stable within a handle (C20); the shape of
  an index (`sig`, `SameShape`, `UPos`), which no operation changes.
-/
import SodModel.DB
import Proofs.FieldIndex
namespace Sod

/-! ### list facts -/

theorem nodup_map_concat {α β} {f : α → β} {l : List α} {a : α} (hn : (l.map f).Nodup)
    (ha : f a ∉ l.map f) : ((l ++ [a]).map f).Nodup := by
  rw [List.map_append, List.map_singleton, (List.perm_append_singleton _ _).nodup_iff]
  exact List.nodup_cons.mpr ⟨ha, hn⟩

theorem map_filter_ne {α} (f : α → Nat) (l : List α) (k : Nat) :
    (l.filter (fun x => f x != k)).map f = (l.map f).filter (· != k) := by
  rw [List.filter_map]
  rfl

/-- a lookup in a list of rows by one column `f`, answering another column `g`: `oidOf`, `uuidOf` and
    `OMap.get?` are such lookups -/
theorem lookup_eq_some {α β γ} [DecidableEq β] {l : List α} {f : α → β} {g : α → γ} {k : β} {c : γ}
    (h : (l.find? (fun p => f p == k)).map g = some c) : ∃ p ∈ l, f p = k ∧ g p = c := by
  obtain ⟨p, hp, rfl⟩ := Option.map_eq_some_iff.mp h
  exact ⟨p, List.mem_of_find?_eq_some hp, eq_of_beq (List.find?_some hp :), rfl⟩

theorem lookup_eq_none {α β γ} [DecidableEq β] {l : List α} {f : α → β} {g : α → γ} {k : β} :
    (l.find? (fun p => f p == k)).map g = none ↔ k ∉ l.map f := by
  rw [Option.map_eq_none_iff, List.find?_eq_none, List.mem_map]
  exact ⟨fun h ⟨p, hp, e⟩ => h p hp (beq_iff_eq.mpr e), fun h p hp e => h ⟨p, hp, eq_of_beq e⟩⟩

theorem lookup_of_mem {α β γ} [DecidableEq β] {l : List α} {f : α → β} {g : α → γ}
    (hn : (l.map f).Nodup) {p : α} (hp : p ∈ l) : (l.find? (fun q => f q == f p)).map g = some (g p) := by
  rw [find?_key_of_mem hn hp]
  rfl

theorem foldl_max_ge (l : List (Nat × Nat)) : ∀ (m : Nat),
    m ≤ l.foldl (fun m p => max m p.1) m ∧ ∀ p ∈ l, p.1 ≤ l.foldl (fun m p => max m p.1) m := by
  induction l with
  | nil => intro m; exact ⟨Nat.le_refl _, fun p hp => nomatch hp⟩
  | cons a t ih =>
    intro m
    obtain ⟨h1, h2⟩ := ih (max m a.1)
    refine ⟨Nat.le_trans (Nat.le_max_left _ _) h1, fun p hp => ?_⟩
    rcases List.mem_cons.mp hp with rfl | hp
    · exact Nat.le_trans (Nat.le_max_right _ _) h1
    · exact h2 p hp

/-! ### what is said of an index: `WF`, `Typed`, `Reflects` -/

/-- one field index is well formed w.r.t. the id table -/
structure FieldWF (ix : ObjIndex) (fi : FieldIdx) : Prop where
  desc  : Desc fi.idx
  oids  : (fi.idx.map (·.2)).Perm (ix.ids.map (·.1))
  homog : ∀ e ∈ fi.idx, e.1.tag = fi.cast
  uniq  : fi.cons.unique = true → fi.idx.Pairwise (fun a b => a.1 ≠ b.1)

structure ObjIndex.WF (ix : ObjIndex) : Prop where
  oidNodup  : (ix.ids.map (·.1)).Nodup
  uuidNodup : (ix.ids.map (·.2)).Nodup
  ltNext    : ∀ p ∈ ix.ids, p.1 < ix.next
  fields    : ∀ fi ∈ ix.fields, FieldWF ix fi

/-- the object has a value of the right kind for every indexed field (guaranteed by Go's type system) -/
def Obj.Typed (ix : ObjIndex) (o : Obj) : Prop :=
  ∀ fi ∈ ix.fields, ∃ v, o.field fi.pos = .v v ∧ v.tag = fi.cast

/-- the index reflects a store of objects `objs : uuid → Option Obj`: an entry (value, oid) is in a
    field index iff oid is the id of a stored object whose field has that value -/
def Reflects (ix : ObjIndex) (objs : Nat → Option Obj) : Prop :=
  (∀ p ∈ ix.ids, ∃ o, objs p.2 = some o ∧ o.uuid = p.2) ∧
  ∀ fi ∈ ix.fields, ∀ e : Entry, e ∈ fi.idx ↔ ∃ u o, (e.2, u) ∈ ix.ids ∧ objs u = some o ∧ o.field fi.pos = .v e.1

theorem Reflects.ids_stored {ix : ObjIndex} {objs : Nat → Option Obj} (h : Reflects ix objs) :
    ∀ p ∈ ix.ids, ∃ o, objs p.2 = some o ∧ o.uuid = p.2 := h.1

theorem Reflects.mem_idx {ix : ObjIndex} {objs : Nat → Option Obj} (h : Reflects ix objs) :
    ∀ fi ∈ ix.fields, ∀ e : Entry,
      e ∈ fi.idx ↔ ∃ u o, (e.2, u) ∈ ix.ids ∧ objs u = some o ∧ o.field fi.pos = .v e.1 := h.2

/-! ### the `Res` monad -/

theorem Res.bind_ok {α β} (a : α) (f : α → Res β) : (Res.ok a >>= f) = f a := rfl
theorem Res.bind_err {α β} (e : Err) (f : α → Res β) : (Res.err e >>= f) = Res.err e := rfl
theorem Res.bind_panic {α β} (f : α → Res β) : ((Res.panic : Res α) >>= f) = Res.panic := rfl
theorem Res.pure_eq {α} (a : α) : (pure a : Res α) = Res.ok a := rfl

/-! ### the id table -/

theorem oidOf_mem {ix : ObjIndex} {u oid : Nat} (h : ix.oidOf u = some oid) : (oid, u) ∈ ix.ids := by
  obtain ⟨⟨_, _⟩, hp, rfl, rfl⟩ := lookup_eq_some h; exact hp

theorem uuidOf_mem {ix : ObjIndex} {u oid : Nat} (h : ix.uuidOf oid = some u) : (oid, u) ∈ ix.ids := by
  obtain ⟨⟨_, _⟩, hp, rfl, rfl⟩ := lookup_eq_some h; exact hp

theorem oidOf_none_iff {ix : ObjIndex} {u : Nat} : ix.oidOf u = none ↔ u ∉ ix.uuids :=
  lookup_eq_none

theorem oidOf_isSome_iff {ix : ObjIndex} {u : Nat} : (∃ oid, ix.oidOf u = some oid) ↔ u ∈ ix.uuids := by
  rw [← Option.ne_none_iff_exists', Ne, oidOf_none_iff, Classical.not_not]

theorem uuidOf_none_iff {ix : ObjIndex} {oid : Nat} : ix.uuidOf oid = none ↔ oid ∉ ix.ids.map (·.1) :=
  lookup_eq_none

theorem oidOf_of_mem {ix : ObjIndex} (hn : (ix.ids.map (·.2)).Nodup) {u oid : Nat}
    (hm : (oid, u) ∈ ix.ids) : ix.oidOf u = some oid :=
  lookup_of_mem (f := fun p : Nat × Nat => p.2) (g := fun p => p.1) hn hm

theorem uuidOf_of_mem {ix : ObjIndex} (hn : (ix.ids.map (·.1)).Nodup) {u oid : Nat}
    (hm : (oid, u) ∈ ix.ids) : ix.uuidOf oid = some u :=
  lookup_of_mem (f := fun p : Nat × Nat => p.1) (g := fun p => p.2) hn hm

theorem oidOf_iff_uuidOf {ix : ObjIndex} (h : ix.WF) (u oid : Nat) :
    ix.oidOf u = some oid ↔ ix.uuidOf oid = some u :=
  ⟨fun h1 => uuidOf_of_mem h.oidNodup (oidOf_mem h1), fun h1 => oidOf_of_mem h.uuidNodup (uuidOf_mem h1)⟩

theorem ids_oid_eq {ix : ObjIndex} (h : ix.WF) {a b u : Nat} (ha : (a, u) ∈ ix.ids) (hb : (b, u) ∈ ix.ids) :
    a = b :=
  (Prod.mk.inj (inj_of_nodup_map (·.2) _ h.uuidNodup ha hb rfl)).1

theorem ids_uuid_eq {ix : ObjIndex} (h : ix.WF) {a u w : Nat} (ha : (a, u) ∈ ix.ids) (hb : (a, w) ∈ ix.ids) :
    u = w :=
  (Prod.mk.inj (inj_of_nodup_map (·.1) _ h.oidNodup ha hb rfl)).2

theorem ObjIndex.WF.row_iff {ix : ObjIndex} (h : ix.WF) {n w : Nat} (hm : (n, w) ∈ ix.ids) {a u : Nat}
    (ha : (a, u) ∈ ix.ids) : a = n ↔ u = w :=
  ⟨fun e => ids_uuid_eq h (e ▸ ha) hm, fun e => ids_oid_eq h ha (e ▸ hm)⟩

/-! ### the per-field loops as maps -/

/-- the value `fieldVal` reads (junk on an opaque leaf) -/
def valOf (fi : FieldIdx) (o : Obj) : Val :=
  match o.field fi.pos with
  | .v x => x
  | .opaque _ => Val.zero fi.cast

def HasVal (o : Obj) (fs : List FieldIdx) : Prop := ∀ fi ∈ fs, ∃ v, o.field fi.pos = .v v

theorem Obj.Typed.hasVal {ix : ObjIndex} {o : Obj} (ht : o.Typed ix) : HasVal o ix.fields := by
  intro fi hfi
  obtain ⟨v, hv, _⟩ := ht fi hfi
  exact ⟨v, hv⟩

theorem valOf_eq {fi : FieldIdx} {o : Obj} {v : Val} (h : o.field fi.pos = .v v) : valOf fi o = v := by
  unfold valOf
  rw [h]

theorem field_valOf {fi : FieldIdx} {o : Obj} (h : ∃ v, o.field fi.pos = .v v) :
    o.field fi.pos = .v (valOf fi o) := by
  obtain ⟨v, hv⟩ := h
  rw [valOf_eq hv, hv]

theorem field_eq_iff {fi : FieldIdx} {o : Obj} (h : ∃ v, o.field fi.pos = .v v) {x : Val} :
    o.field fi.pos = .v x ↔ x = valOf fi o := by
  rw [field_valOf h, Leaf.v.injEq, eq_comm]

theorem Obj.Typed.valOf_tag {ix : ObjIndex} {o : Obj} (ht : o.Typed ix) {fi : FieldIdx} (hfi : fi ∈ ix.fields) :
    (valOf fi o).tag = fi.cast := by
  obtain ⟨v, hv, htag⟩ := ht fi hfi
  rw [valOf_eq hv, htag]

theorem fieldVal_eq {fi : FieldIdx} {o : Obj} (h : ∃ v, o.field fi.pos = .v v) :
    ObjIndex.fieldVal fi o = .ok (valOf fi o) := by
  obtain ⟨v, hv⟩ := h
  unfold ObjIndex.fieldVal
  rw [valOf_eq hv, hv]

theorem fieldVal_ok {fi : FieldIdx} {o : Obj} {v : Val} (h : ObjIndex.fieldVal fi o = .ok v) :
    o.field fi.pos = .v v := by
  unfold ObjIndex.fieldVal at h
  split at h
  next x hf => rw [hf, Res.ok.inj h]
  next => cases h

/-- `insertFields` and `updateFields` are one loop with two bodies `F`: with a value for every
    field it maps `F` over the fields -/
theorem fieldsLoop_eq {o : Obj} {F : FieldIdx → Val → FIdx} {g : List FieldIdx → Res (List FieldIdx)}
    (h0 : g [] = .ok [])
    (hc : ∀ fi rest, g (fi :: rest) = match ObjIndex.fieldVal fi o with
      | .ok v => (do let rest' ← g rest; pure ({ fi with idx := F fi v } :: rest'))
      | .err e => .err e
      | .panic => .panic)
    {fs : List FieldIdx} (hv : HasVal o fs) :
    g fs = .ok (fs.map fun fi => { fi with idx := F fi (valOf fi o) }) := by
  induction fs with
  | nil => exact h0
  | cons fi rest ih =>
    rw [hc, fieldVal_eq (hv fi List.mem_cons_self), ih fun f hf => hv f (List.mem_cons_of_mem _ hf)]
    rfl

theorem insertFields_eq {o : Obj} {oid : Nat} {fs : List FieldIdx} (hv : HasVal o fs) :
    ObjIndex.insertFields o oid fs = .ok (fs.map fun fi => { fi with idx := fi.idx.insert (valOf fi o, oid) }) :=
  fieldsLoop_eq (g := ObjIndex.insertFields o oid) (F := fun fi v => fi.idx.insert (v, oid)) rfl (fun _ _ => rfl) hv

theorem updateFields_eq {o : Obj} {oid : Nat} {fs : List FieldIdx} (hv : HasVal o fs) :
    ObjIndex.updateFields o oid fs = .ok (fs.map fun fi => { fi with idx := fi.idx.update (valOf fi o) oid }) :=
  fieldsLoop_eq (g := ObjIndex.updateFields o oid) (F := fun fi v => fi.idx.update v oid) rfl (fun _ _ => rfl) hv

/-! ### the uniqueness loop -/

theorem satisfyGo_cons (o : Obj) (known : Option Nat) (fi : FieldIdx) (rest : List FieldIdx) :
    ObjIndex.satisfyAll.go o known (fi :: rest) =
      match ObjIndex.fieldVal fi o with
      | .ok v => if fi.cons.unique && !(fi.idx.satisfyUnique known v) then .err .unique
                 else ObjIndex.satisfyAll.go o known rest
      | .err e => .err e
      | .panic => .panic := rfl

theorem satisfyGo_eq {o : Obj} {known : Option Nat} {fs : List FieldIdx} (h : HasVal o fs) :
    ObjIndex.satisfyAll.go o known fs =
      if fs.all (fun fi => !fi.cons.unique || fi.idx.satisfyUnique known (valOf fi o)) then .ok () else .err .unique := by
  induction fs with
  | nil => rfl
  | cons fi rest ih =>
    rw [satisfyGo_cons, fieldVal_eq (h fi List.mem_cons_self), List.all_cons,
      ih fun f hf => h f (List.mem_cons_of_mem _ hf)]
    dsimp only
    cases fi.cons.unique <;> cases fi.idx.satisfyUnique known (valOf fi o) <;> rfl

theorem satisfyGo_hasVal {o : Obj} {known : Option Nat} {fs : List FieldIdx}
    (h : ObjIndex.satisfyAll.go o known fs = .ok ()) : HasVal o fs := by
  induction fs with
  | nil => exact fun _ hfi => nomatch hfi
  | cons fi rest ih =>
    rw [satisfyGo_cons] at h
    cases hv : ObjIndex.fieldVal fi o with
    | ok v =>
      rw [hv] at h
      dsimp only at h
      split at h
      · cases h
      · exact List.forall_mem_cons.mpr ⟨⟨v, fieldVal_ok hv⟩, ih h⟩
    | err e => rw [hv] at h; cases h
    | panic => rw [hv] at h; cases h

theorem satisfyAll_eq {ix : ObjIndex} {o : Obj} (hv : HasVal o ix.fields) :
    ix.satisfyAll o =
      if ix.fields.all (fun fi => !fi.cons.unique || fi.idx.satisfyUnique (ix.oidOf o.uuid) (valOf fi o))
      then .ok () else .err .unique :=
  satisfyGo_eq hv

theorem satisfyAll_ok_or_unique {ix : ObjIndex} {o : Obj} (hv : HasVal o ix.fields) :
    ix.satisfyAll o = .ok () ∨ ix.satisfyAll o = .err .unique := by
  rw [satisfyAll_eq hv]
  split
  · exact Or.inl rfl
  · exact Or.inr rfl

theorem satisfyAll_ok_iff_oid {ix : ObjIndex} {o : Obj} (h : ix.WF) (hv : HasVal o ix.fields) :
    ix.satisfyAll o = .ok () ↔
      ∀ fi ∈ ix.fields, fi.cons.unique = true →
        ∀ e ∈ fi.idx, e.1 = valOf fi o → some e.2 = ix.oidOf o.uuid := by
  have himp : ∀ a b : Bool, (!a || b) = true ↔ (a = true → b = true) := by decide
  rw [satisfyAll_eq hv]
  -- `all` is `∀` over the fields, and on a unique field the check is `satisfyUnique_iff`
  refine Iff.trans ?_ (List.all_eq_true.trans (forall_congr' fun fi => forall_congr' fun hfi =>
    (himp _ _).trans (imp_congr_right fun hq =>
      satisfyUnique_iff _ _ _ (h.fields fi hfi).desc ((h.fields fi hfi).uniq hq))))
  split
  next hb => exact iff_of_true rfl hb
  next hb => exact iff_of_false nofun hb

/-! ### `insertOrUpdate` is the uniqueness check, then a new index -/

def updIx (ix : ObjIndex) (o : Obj) (oid : Nat) : ObjIndex :=
  { ix with fields := ix.fields.map (fun fi => { fi with idx := fi.idx.update (valOf fi o) oid }) }

def insIx (ix : ObjIndex) (o : Obj) : ObjIndex :=
  { next := ix.next + 1, ids := ix.ids ++ [(ix.next, o.uuid)],
    fields := ix.fields.map (fun fi => { fi with idx := fi.idx.insert (valOf fi o, ix.next) }) }

/-- the index `insertOrUpdate` builds: an object that has an oid keeps it, one that has none gets `ix.next` -/
def putIx (ix : ObjIndex) (o : Obj) : ObjIndex :=
  match ix.oidOf o.uuid with
  | some oid => updIx ix o oid
  | none => insIx ix o

theorem insertOrUpdate_eq (ix : ObjIndex) (o : Obj) :
    ix.insertOrUpdate o = (ix.satisfyAll o >>= fun _ => .ok (putIx ix o)) := by
  unfold ObjIndex.insertOrUpdate putIx
  cases hs : ix.satisfyAll o with
  | ok _ =>
    have hv : HasVal o ix.fields := satisfyGo_hasVal hs
    rw [Res.bind_ok, Res.bind_ok]
    cases ix.oidOf o.uuid with
    | some oid => simp only [updateFields_eq hv, Res.bind_ok, Res.pure_eq, updIx]
    | none => simp only [insertFields_eq hv, Res.bind_ok, Res.pure_eq, insIx]
  | err e => rfl
  | panic => rfl

theorem insertOrUpdate_ok_iff {ix ix' : ObjIndex} {o : Obj} :
    ix.insertOrUpdate o = .ok ix' ↔ ix.satisfyAll o = .ok () ∧ ix' = putIx ix o := by
  rw [insertOrUpdate_eq]
  cases ix.satisfyAll o with
  | ok _ => simp only [Res.bind_ok, eq_comm, Res.ok.injEq, true_and]
  | err e => simp only [Res.bind_err, reduceCtorEq, false_and]
  | panic => simp only [Res.bind_panic, reduceCtorEq, false_and]

theorem insertOrUpdate_err_iff {ix : ObjIndex} {o : Obj} {e : Err} :
    ix.insertOrUpdate o = .err e ↔ ix.satisfyAll o = .err e := by
  rw [insertOrUpdate_eq]
  cases ix.satisfyAll o with
  | ok _ => simp only [Res.bind_ok, reduceCtorEq]
  | err e => simp only [Res.bind_err, Res.err.injEq]
  | panic => simp only [Res.bind_panic, reduceCtorEq]

theorem insertOrUpdate_of_ok {ix : ObjIndex} {o : Obj} (h : ix.satisfyAll o = .ok ()) :
    ix.insertOrUpdate o = .ok (putIx ix o) :=
  insertOrUpdate_ok_iff.mpr ⟨h, rfl⟩

theorem insertOrUpdate_cases {ix ix' : ObjIndex} {o : Obj} (hr : ix.insertOrUpdate o = .ok ix') :
    (∃ oid, ix.oidOf o.uuid = some oid ∧ ix' = updIx ix o oid) ∨ (ix.oidOf o.uuid = none ∧ ix' = insIx ix o) := by
  obtain ⟨_, rfl⟩ := insertOrUpdate_ok_iff.mp hr
  unfold putIx
  cases ix.oidOf o.uuid with
  | some oid => exact Or.inl ⟨oid, rfl, rfl⟩
  | none => exact Or.inr ⟨rfl, rfl⟩

/-! ### field-level preservation -/

theorem FieldWF.nodup {ix : ObjIndex} {fi : FieldIdx} (hw : FieldWF ix fi) (hn : (ix.ids.map (·.1)).Nodup) :
    (fi.idx.map (·.2)).Nodup :=
  hw.oids.nodup_iff.mpr hn

theorem FieldWF.delete_eq {ix : ObjIndex} {fi : FieldIdx} (hw : FieldWF ix fi) (hn : (ix.ids.map (·.1)).Nodup)
    (oid : Nat) : fi.idx.delete oid = fi.idx.filter (fun e => e.2 != oid) :=
  delete_eq_filter fi.idx oid hw.desc (hw.nodup hn)

theorem FieldWF.of_perm {ix' : ObjIndex} {fi : FieldIdx} {l l' : FIdx} {v : Val} {n : Nat}
    (hd : Desc l') (hp : l'.Perm ((v, n) :: l)) (hids : (n :: l.map (·.2)).Perm (ix'.ids.map (·.1)))
    (hh : ∀ e ∈ l, e.1.tag = fi.cast) (hv : v.tag = fi.cast)
    (hu : fi.cons.unique = true → l.Pairwise (fun a b => a.1 ≠ b.1) ∧ ∀ e ∈ l, e.1 ≠ v) :
    FieldWF ix' { fi with idx := l' } where
  desc := hd
  oids := (hp.map _).trans hids
  homog e he := by
    rcases List.mem_cons.mp (hp.mem_iff.mp he) with rfl | he
    · exact hv
    · exact hh e he
  uniq hq :=
    (hp.pairwise_iff (fun h => Ne.symm h)).mpr
      (List.pairwise_cons.mpr ⟨fun e he => ((hu hq).2 e he).symm, (hu hq).1⟩)

theorem FieldWF.update {ix ix' : ObjIndex} {fi : FieldIdx} (hw : FieldWF ix fi) (hn : (ix.ids.map (·.1)).Nodup)
    {n : Nat} (hm : n ∈ ix.ids.map (·.1)) (hids : ix'.ids = ix.ids) {v : Val} (hv : v.tag = fi.cast)
    (hu : fi.cons.unique = true → ∀ e ∈ fi.idx, e.1 = v → e.2 = n) :
    FieldWF ix' { fi with idx := fi.idx.update v n } := by
  have hd := hw.desc.filter (fun e => e.2 != n)
  rw [FIdx.update, hw.delete_eq hn n]
  refine FieldWF.of_perm (insert_desc _ _ hd) (insert_perm _ _) ?_
    (fun e he => hw.homog e (List.mem_filter.mp he).1) hv
    fun hq => ⟨(hw.uniq hq).filter _, fun e he hev => ?_⟩
  · rw [hids, map_filter_ne Prod.snd, ← (hw.nodup hn).erase_eq_filter]
    exact (List.perm_cons_erase (hw.oids.mem_iff.mpr hm)).symm.trans hw.oids
  · obtain ⟨he1, he2⟩ := List.mem_filter.mp he
    exact bne_iff_ne.mp he2 (hu hq e he1 hev)

theorem FieldWF.delete {ix ix' : ObjIndex} {fi : FieldIdx} (hw : FieldWF ix fi)
    (hn : (ix.ids.map (·.1)).Nodup) {oid : Nat} (hids : ix'.ids = ix.ids.filter (fun p => p.1 != oid)) :
    FieldWF ix' { fi with idx := fi.idx.delete oid } := by
  rw [hw.delete_eq hn oid]
  refine ⟨hw.desc.filter _, ?_, ?_, ?_⟩
  · rw [hids, map_filter_ne Prod.snd, map_filter_ne Prod.fst]
    exact hw.oids.filter _
  · intro e he
    exact hw.homog e (List.mem_filter.mp he).1
  · intro hq
    exact (hw.uniq hq).filter _

theorem FieldWF.congr {ix ix' : ObjIndex} {fi : FieldIdx} (hw : FieldWF ix fi) (hids : ix'.ids = ix.ids) :
    FieldWF ix' fi :=
  ⟨hw.desc, by rw [hids]; exact hw.oids, hw.homog, hw.uniq⟩

/-! ### well-formedness: established by `new`, kept by insert, delete and reload -/

theorem new_go_idx (ds : List FieldDesc) : ∀ (pos : Nat), ∀ fi ∈ ObjIndex.new.go ds pos, fi.idx = [] := by
  induction ds with
  | nil => intro pos fi hfi; cases hfi
  | cons d rest ih =>
    intro pos fi hfi
    unfold ObjIndex.new.go at hfi
    split at hfi
    · rcases List.mem_cons.mp hfi with rfl | hfi
      · rfl
      · exact ih _ fi hfi
    · exact ih _ fi hfi

theorem new_wf (descs : List FieldDesc) : (ObjIndex.new descs).WF := by
  refine ⟨List.nodup_nil, List.nodup_nil, fun p hp => absurd hp List.not_mem_nil, ?_⟩
  intro fi hfi
  have hi : fi.idx = [] := new_go_idx descs 0 fi hfi
  exact { desc := hi ▸ List.Pairwise.nil, oids := hi ▸ List.Perm.nil, homog := fun e he => absurd (hi ▸ he) List.not_mem_nil,
          uniq := fun _ => hi ▸ List.Pairwise.nil }

theorem ObjIndex.WF.next_not_mem {ix : ObjIndex} (h : ix.WF) : ix.next ∉ ix.ids.map (·.1) := by
  intro hm
  obtain ⟨p, hp, hpe⟩ := List.mem_map.mp hm
  exact Nat.lt_irrefl _ (hpe ▸ h.ltNext p hp)

theorem putIx_wf {ix : ObjIndex} {o : Obj} (h : ix.WF) (ht : o.Typed ix) (hs : ix.satisfyAll o = .ok ()) :
    (putIx ix o).WF := by
  have hsat := (satisfyAll_ok_iff_oid h ht.hasVal).mp hs
  unfold putIx
  cases ho : ix.oidOf o.uuid with
  | some oid =>
    rw [ho] at hsat
    show (updIx ix o oid).WF
    refine ⟨h.oidNodup, h.uuidNodup, h.ltNext, List.forall_mem_map.mpr fun fi hfi => ?_⟩
    exact (h.fields fi hfi).update (ix' := updIx ix o oid) (n := oid) h.oidNodup
      (List.mem_map.mpr ⟨_, oidOf_mem ho, rfl⟩) rfl (ht.valOf_tag hfi)
      fun hq e he hev => Option.some.inj (hsat fi hfi hq e he hev)
  | none =>
    rw [ho] at hsat
    show (insIx ix o).WF
    refine ⟨nodup_map_concat h.oidNodup h.next_not_mem,
      nodup_map_concat h.uuidNodup (oidOf_none_iff.mp ho), fun p hp => ?_,
      List.forall_mem_map.mpr fun fi hfi => ?_⟩
    · rcases List.mem_append.mp hp with hp | hp
      · exact Nat.lt_succ_of_lt (h.ltNext p hp)
      · rw [List.mem_singleton.mp hp]
        exact Nat.lt_succ_self _
    · have hw := h.fields fi hfi
      refine FieldWF.of_perm (insert_desc _ _ hw.desc) (insert_perm _ _) ?_ hw.homog
        (ht.valOf_tag hfi) fun hq => ⟨hw.uniq hq, fun e he hev => nomatch hsat fi hfi hq e he hev⟩
      show (ix.next :: fi.idx.map (·.2)).Perm ((ix.ids ++ [(ix.next, o.uuid)]).map (·.1))
      rw [List.map_append]
      exact ((List.perm_append_singleton _ _).trans (hw.oids.symm.cons _)).symm

theorem insertOrUpdate_wf {ix ix' : ObjIndex} {o : Obj} (h : ix.WF) (ht : o.Typed ix)
    (hr : ix.insertOrUpdate o = .ok ix') : ix'.WF := by
  obtain ⟨hs, rfl⟩ := insertOrUpdate_ok_iff.mp hr
  exact putIx_wf h ht hs

theorem deleteByUUID_eq_none {ix : ObjIndex} {u : Nat} (ho : ix.oidOf u = none) : ix.deleteByUUID u = ix := by
  unfold ObjIndex.deleteByUUID
  rw [ho]

theorem deleteByUUID_eq_some {ix : ObjIndex} {u oid : Nat} (ho : ix.oidOf u = some oid) :
    ix.deleteByUUID u =
      { ix with fields := ObjIndex.deleteFields oid ix.fields, ids := ix.ids.filter (fun p => p.1 != oid) } := by
  unfold ObjIndex.deleteByUUID
  rw [ho]

theorem deleteByUUID_wf {ix : ObjIndex} (h : ix.WF) (u : Nat) : (ix.deleteByUUID u).WF := by
  cases ho : ix.oidOf u with
  | none => rw [deleteByUUID_eq_none ho]; exact h
  | some oid =>
    rw [deleteByUUID_eq_some ho]
    exact ⟨h.oidNodup.sublist (List.filter_sublist.map _), h.uuidNodup.sublist (List.filter_sublist.map _),
      fun p hp => h.ltNext p (List.mem_filter.mp hp).1,
      List.forall_mem_map.mpr fun fi hfi => (h.fields fi hfi).delete h.oidNodup rfl⟩

theorem reload_ids (ix : ObjIndex) : ix.reload.ids = ix.ids ∧ ix.reload.fields = ix.fields := ⟨rfl, rfl⟩

theorem reload_wf {ix : ObjIndex} (h : ix.WF) : ix.reload.WF := by
  refine ⟨h.oidNodup, h.uuidNodup, ?_, fun fi hfi => (h.fields fi hfi).congr rfl⟩
  intro p hp
  show p.1 < ix.ids.foldl (fun m p => max m p.1) 0 + 1
  have := (foldl_max_ge ix.ids 0).2 p hp
  omega

theorem control_of_wf {ix : ObjIndex} (h : ix.WF) : ix.control = true := by
  refine List.all_eq_true.mpr fun fi hfi =>
    Bool.and_eq_true_iff.mpr ⟨(control_iff _).mpr (h.fields fi hfi).desc, ?_⟩
  have := (h.fields fi hfi).oids.length_eq
  rw [List.length_map, List.length_map] at this
  exact beq_iff_eq.mpr this

/-! ### what insert and delete do to the id table -/

theorem insertOrUpdate_uuids {ix ix' : ObjIndex} {o : Obj} (hr : ix.insertOrUpdate o = .ok ix') :
    ix'.uuids = if o.uuid ∈ ix.uuids then ix.uuids else ix.uuids ++ [o.uuid] := by
  rcases insertOrUpdate_cases hr with ⟨oid, ho, rfl⟩ | ⟨ho, rfl⟩
  · rw [if_pos (oidOf_isSome_iff.mp ⟨oid, ho⟩)]
    rfl
  · rw [if_neg (oidOf_none_iff.mp ho)]
    simp only [ObjIndex.uuids, insIx, List.map_append, List.map_cons, List.map_nil]

theorem insertOrUpdate_next_mono {ix ix' : ObjIndex} {o : Obj} (hr : ix.insertOrUpdate o = .ok ix') :
    ix.next ≤ ix'.next := by
  rcases insertOrUpdate_cases hr with ⟨oid, ho, rfl⟩ | ⟨ho, rfl⟩
  · exact Nat.le_refl _
  · exact Nat.le_succ _

/-- existing objects keep their oid (a search result taken earlier still designates the same object: C20) -/
theorem insertOrUpdate_oidOf_stable {ix ix' : ObjIndex} {o : Obj} (hr : ix.insertOrUpdate o = .ok ix')
    {u oid : Nat} (hu : ix.oidOf u = some oid) : ix'.oidOf u = some oid := by
  rcases insertOrUpdate_cases hr with ⟨oid', ho, rfl⟩ | ⟨ho, rfl⟩
  · exact hu
  · obtain ⟨p, hp, rfl⟩ := Option.map_eq_some_iff.mp hu
    show ((ix.ids ++ [(ix.next, o.uuid)]).find? (fun p => p.2 == u)).map (·.1) = _
    rw [List.find?_append, hp]
    rfl

/-- an oid is never given to another object within a handle (C20) -/
theorem insertOrUpdate_uuidOf_stable {ix ix' : ObjIndex} {o : Obj} (h : ix.WF) (hr : ix.insertOrUpdate o = .ok ix')
    {u oid : Nat} (hu : ix'.uuidOf oid = some u) (hlt : oid < ix.next) : ix.uuidOf oid = some u := by
  rcases insertOrUpdate_cases hr with ⟨oid', ho, rfl⟩ | ⟨ho, rfl⟩
  · exact hu
  · rcases List.mem_append.mp (uuidOf_mem hu) with hm | hm
    · exact uuidOf_of_mem h.oidNodup hm
    · cases List.mem_singleton.mp hm
      exact absurd hlt (Nat.lt_irrefl _)

theorem deleteByUUID_uuids {ix : ObjIndex} (h : ix.WF) (u : Nat) :
    (ix.deleteByUUID u).uuids = ix.uuids.filter (· != u) := by
  cases ho : ix.oidOf u with
  | none =>
    rw [deleteByUUID_eq_none ho]
    exact (List.filter_eq_self.mpr fun x hx =>
      bne_iff_ne.mpr (ne_of_mem_of_not_mem hx (oidOf_none_iff.mp ho))).symm
  | some oid =>
    rw [deleteByUUID_eq_some ho]
    show (ix.ids.filter (fun p => p.1 != oid)).map (·.2) = (ix.ids.map (·.2)).filter (· != u)
    rw [List.filter_map]
    refine congrArg _ (List.filter_congr fun p hp => Bool.eq_iff_iff.mpr ?_)
    -- the row of `oid` is the row of `u`
    simp only [Function.comp_apply, bne_iff_ne, ne_eq, h.row_iff (oidOf_mem ho) (a := p.1) (u := p.2) hp]

theorem deleteByUUID_next (ix : ObjIndex) (u : Nat) : (ix.deleteByUUID u).next = ix.next := by
  unfold ObjIndex.deleteByUUID
  cases ix.oidOf u <;> rfl

/-! ### uniqueness is enforced exactly (C03) -/

theorem insertOrUpdate_total {ix : ObjIndex} {o : Obj} (ht : o.Typed ix) :
    (∃ ix', ix.insertOrUpdate o = .ok ix') ∨ ix.insertOrUpdate o = .err .unique :=
  (satisfyAll_ok_or_unique ht.hasVal).imp (fun hs => ⟨_, insertOrUpdate_of_ok hs⟩) insertOrUpdate_err_iff.mpr

theorem satisfyAll_ok_iff {ix : ObjIndex} {o : Obj} (h : ix.WF) (ht : o.Typed ix) :
    ix.satisfyAll o = .ok () ↔
      ∀ fi ∈ ix.fields, fi.cons.unique = true →
        ∀ e ∈ fi.idx, o.field fi.pos = .v e.1 → ix.uuidOf e.2 = some o.uuid := by
  rw [satisfyAll_ok_iff_oid h ht.hasVal]
  refine forall_congr' fun fi => forall_congr' fun hfi => ?_
  simp only [field_eq_iff (ht.hasVal fi hfi), eq_comm (a := some _), oidOf_iff_uuidOf h]

theorem satisfyAll_unique_iff {ix : ObjIndex} {o : Obj} (h : ix.WF) (ht : o.Typed ix) :
    ix.satisfyAll o = .err .unique ↔
      ∃ fi ∈ ix.fields, fi.cons.unique = true ∧ ∃ e ∈ fi.idx, o.field fi.pos = .v e.1 ∧ ix.uuidOf e.2 ≠ some o.uuid := by
  have hno : ix.satisfyAll o = .err .unique ↔ ¬ ix.satisfyAll o = .ok () := by
    refine ⟨fun he hok => ?_, (satisfyAll_ok_or_unique ht.hasVal).resolve_left⟩
    rw [he] at hok
    cases hok
  simp only [hno, satisfyAll_ok_iff h ht, Classical.not_forall, exists_prop, ne_eq]

/-! ### the index reflects the stored objects -/

theorem new_reflects (descs : List FieldDesc) : Reflects (ObjIndex.new descs) (fun _ => none) := by
  refine ⟨fun p hp => absurd hp List.not_mem_nil, ?_⟩
  intro fi hfi e
  have hi : fi.idx = [] := new_go_idx descs 0 fi hfi
  rw [hi]
  constructor
  · intro he
    cases he
  · rintro ⟨u, o, _, ho, _⟩
    cases ho

theorem Reflects.of_fields {ix : ObjIndex} {objs objs' : Nat → Option Obj} (h : Reflects ix objs)
    (he : ∀ u, u ∈ ix.uuids → ∀ o, objs u = some o →
      ∃ o', objs' u = some o' ∧ o'.uuid = o.uuid ∧ ∀ fi ∈ ix.fields, o'.field fi.pos = o.field fi.pos) :
    Reflects ix objs' := by
  have hmem : ∀ {a u : Nat}, (a, u) ∈ ix.ids → u ∈ ix.uuids := fun hm => List.mem_map.mpr ⟨_, hm, rfl⟩
  refine ⟨fun p hp => ?_, fun fi hfi e => ?_⟩
  · obtain ⟨o, ho, hou⟩ := h.ids_stored p hp
    obtain ⟨o', ho', hu', _⟩ := he p.2 (hmem (a := p.1) hp) o ho
    exact ⟨o', ho', hu'.trans hou⟩
  · rw [h.mem_idx fi hfi e]
    constructor
    · rintro ⟨u, o, h1, h2, h3⟩
      obtain ⟨o', ho', _, hf⟩ := he u (hmem h1) o h2
      exact ⟨u, o', h1, ho', (hf fi hfi).trans h3⟩
    · rintro ⟨u, o', h1, h2, h3⟩
      obtain ⟨o, ho, _⟩ := h.ids_stored (e.2, u) h1
      obtain ⟨o'', ho'', _, hf⟩ := he u (hmem h1) o ho
      rw [h2] at ho''
      cases ho''
      exact ⟨u, o, h1, ho, (hf fi hfi).symm.trans h3⟩

theorem Reflects.congr {ix : ObjIndex} {objs objs' : Nat → Option Obj} (h : Reflects ix objs)
    (he : ∀ u, u ∈ ix.uuids → objs u = objs' u) : Reflects ix objs' :=
  h.of_fields fun u hu o ho => ⟨o, he u hu ▸ ho, rfl, fun _ _ => rfl⟩

/-- `insertOrUpdate` and `deleteByUUID` re-bind one uuid `w`: its row in the id table (oid `n`) and
    its entries in the field indexes go, and if the new binding `r` is an object, a row `(n, w)`
    and that object's entries come. -/
theorem Reflects.rebind {ix ix' : ObjIndex} {objs : Nat → Option Obj} (hrf : Reflects ix objs)
    {w n : Nat} {r : Option Obj} {G : FieldIdx → FieldIdx}
    (hrow : ∀ {a u : Nat}, (a, u) ∈ ix.ids → a ≠ n → u ≠ w)
    (hr : ∀ o, r = some o → o.uuid = w ∧ HasVal o ix.fields)
    (hids : ∀ p, p ∈ ix'.ids ↔ (p ∈ ix.ids ∧ p.1 ≠ n) ∨ (r.isSome = true ∧ p = (n, w)))
    (hf : ix'.fields = ix.fields.map G) (hpos : ∀ fi, (G fi).pos = fi.pos)
    (hidx : ∀ fi ∈ ix.fields, ∀ e, e ∈ (G fi).idx ↔
      (e ∈ fi.idx ∧ e.2 ≠ n) ∨ ∃ o, r = some o ∧ e = (valOf fi o, n)) :
    Reflects ix' (fun u => if u = w then r else objs u) := by
  constructor
  · intro p hp
    rcases (hids p).mp hp with ⟨hp, hn⟩ | ⟨hs, rfl⟩
    · obtain ⟨o', h1, h2⟩ := hrf.ids_stored p hp
      exact ⟨o', (if_neg (hrow hp hn)).trans h1, h2⟩
    · obtain ⟨o, rfl⟩ := Option.isSome_iff_exists.mp hs
      exact ⟨o, if_pos rfl, (hr o rfl).1⟩
  · rw [hf]
    intro fi' hfi' e
    obtain ⟨fi, hfi, rfl⟩ := List.mem_map.mp hfi'
    rw [hidx fi hfi, hpos, hrf.mem_idx fi hfi]
    constructor
    · rintro (⟨⟨u, o', h1, h2, h3⟩, hn⟩ | ⟨o, rfl, rfl⟩)
      · exact ⟨u, o', (hids _).mpr (Or.inl ⟨h1, hn⟩), (if_neg (hrow h1 hn)).trans h2, h3⟩
      · exact ⟨w, o, (hids _).mpr (Or.inr ⟨rfl, rfl⟩), if_pos rfl, field_valOf ((hr o rfl).2 fi hfi)⟩
    · rintro ⟨u, o', h1, h2, h3⟩
      rcases (hids _).mp h1 with ⟨h1, hn⟩ | ⟨_, h1⟩
      · exact Or.inl ⟨⟨u, o', h1, (if_neg (hrow h1 hn)).symm.trans h2, h3⟩, hn⟩
      · obtain ⟨h1a, rfl⟩ := Prod.mk.inj h1
        replace h2 : r = some o' := (if_pos rfl).symm.trans h2
        rw [field_valOf ((hr o' h2).2 fi hfi)] at h3
        exact Or.inr ⟨o', h2, Prod.ext (Leaf.v.inj h3).symm h1a⟩

theorem ObjIndex.WF.entry_ne_next {ix : ObjIndex} (h : ix.WF) {fi : FieldIdx} (hfi : fi ∈ ix.fields)
    {e : Entry} (he : e ∈ fi.idx) : e.2 ≠ ix.next := by
  intro e'
  exact h.next_not_mem (e' ▸ (h.fields fi hfi).oids.mem_iff.mp (List.mem_map_of_mem he))

theorem insIx_reflects {ix : ObjIndex} {o : Obj} {objs : Nat → Option Obj}
    (h : ix.WF) (hv : HasVal o ix.fields) (hrf : Reflects ix objs) (ho : ix.oidOf o.uuid = none) :
    Reflects (insIx ix o) (fun u => if u = o.uuid then some o else objs u) := by
  -- the uuid has no row and the oid `ix.next` has none either: nothing goes
  refine hrf.rebind (n := ix.next) (fun ha _ hu => oidOf_none_iff.mp ho (List.mem_map.mpr ⟨_, ha, hu⟩))
    (fun _ e => Option.some.inj e ▸ ⟨rfl, hv⟩) ?_ rfl (fun _ => rfl) ?_
  · intro p
    -- every old row stays, and the table of `insIx` is the old rows and then `(ix.next, o.uuid)`
    rw [and_iff_left_of_imp fun hp => Nat.ne_of_lt (h.ltNext p hp)]
    exact List.mem_append.trans (or_congr_right (List.mem_singleton.trans (and_iff_right rfl).symm))
  · intro fi hfi e
    -- every old entry stays, and `insert` adds the one entry
    rw [and_iff_left_of_imp (h.entry_ne_next hfi)]
    simp only [mem_insert_iff, Option.some.injEq, exists_eq_left', or_comm]

theorem updIx_reflects {ix : ObjIndex} {o : Obj} {objs : Nat → Option Obj}
    (h : ix.WF) (hv : HasVal o ix.fields) (hrf : Reflects ix objs) {oid : Nat} (ho : ix.oidOf o.uuid = some oid) :
    Reflects (updIx ix o oid) (fun u => if u = o.uuid then some o else objs u) := by
  have hmem := oidOf_mem ho
  refine hrf.rebind (n := oid) (fun ha hn => mt (h.row_iff hmem ha).mpr hn)
    (fun _ e => Option.some.inj e ▸ ⟨rfl, hv⟩) ?_ rfl (fun _ => rfl) ?_
  · intro p
    -- the row that goes, `(oid, o.uuid)`, is the row that comes
    refine ⟨fun hm => ?_, ?_⟩
    · by_cases hp : p.1 = oid
      · exact Or.inr ⟨rfl, Prod.ext hp (ids_uuid_eq h (hp ▸ hm : (oid, p.2) ∈ ix.ids) hmem)⟩
      · exact Or.inl ⟨hm, hp⟩
    · rintro (⟨hm, _⟩ | ⟨_, rfl⟩)
      · exact hm
      · exact hmem
  · intro fi hfi e
    -- `update` is `delete`, a `filter` on a well-formed field index, then `insert`
    simp only [FIdx.update, (h.fields fi hfi).delete_eq h.oidNodup oid, mem_insert_iff, List.mem_filter, bne_iff_ne,
      Option.some.injEq, exists_eq_left', or_comm]

theorem insertOrUpdate_reflects {ix ix' : ObjIndex} {o : Obj} {objs : Nat → Option Obj}
    (h : ix.WF) (ht : o.Typed ix) (hrf : Reflects ix objs) (hr : ix.insertOrUpdate o = .ok ix') :
    Reflects ix' (fun u => if u = o.uuid then some o else objs u) := by
  rcases insertOrUpdate_cases hr with ⟨oid, ho, rfl⟩ | ⟨ho, rfl⟩
  · exact updIx_reflects h ht.hasVal hrf ho
  · exact insIx_reflects h ht.hasVal hrf ho

theorem deleteByUUID_reflects {ix : ObjIndex} {objs : Nat → Option Obj} (h : ix.WF) (hrf : Reflects ix objs) (u : Nat) :
    Reflects (ix.deleteByUUID u) (fun x => if x = u then none else objs x) := by
  cases ho : ix.oidOf u with
  | none =>
    rw [deleteByUUID_eq_none ho]
    exact hrf.congr fun w hw => (if_neg (ne_of_mem_of_not_mem hw (oidOf_none_iff.mp ho))).symm
  | some oid =>
    rw [deleteByUUID_eq_some ho]
    have hmem := oidOf_mem ho
    refine hrf.rebind (n := oid) (fun ha hn => mt (h.row_iff hmem ha).mpr hn) (fun _ e => nomatch e)
      ?_ rfl (fun _ => rfl) ?_
    · intro p
      -- no row comes (`r = none`); the rows that stay are those the `filter` keeps
      simp only [List.mem_filter, bne_iff_ne, ne_eq, Option.isSome_none, Bool.false_eq_true, false_and, or_false]
    · intro fi hfi e
      -- likewise for the entries: on a well-formed field index `delete` is that `filter`
      simp only [(h.fields fi hfi).delete_eq h.oidNodup oid, List.mem_filter, bne_iff_ne, ne_eq, reduceCtorEq,
        false_and, exists_const, or_false]

theorem reload_reflects {ix : ObjIndex} {objs : Nat → Option Obj} (hrf : Reflects ix objs) :
    Reflects ix.reload objs := hrf

/-! ### search returns exactly the matching objects (C02), in index order (C13) -/

theorem mem_filter_reflects {ix : ObjIndex} {objs : Nat → Option Obj} (hrf : Reflects ix objs)
    {fi : FieldIdx} (hfi : fi ∈ ix.fields) (P : Entry → Bool) (e : Entry) :
    e ∈ fi.idx.filter P ↔
      ∃ u o, (e.2, u) ∈ ix.ids ∧ objs u = some o ∧ o.field fi.pos = .v e.1 ∧ P e = true := by
  rw [List.mem_filter, hrf.mem_idx fi hfi e]
  constructor
  · rintro ⟨⟨u, o, a, b, c⟩, d⟩
    exact ⟨u, o, a, b, c, d⟩
  · rintro ⟨u, o, a, b, c, d⟩
    exact ⟨⟨u, o, a, b, c⟩, d⟩

theorem eval_re_tag {m : Matcher} {x v : Val} (h : Val.eval m .re x v = true) : x.tag = .str := by
  cases x <;> first | rfl | cases h

theorem searchOp_cases (m : Option Matcher) (op : Op) (l : FIdx) (v : Val) :
    (∃ r, ObjIndex.searchOp m op l v = .ok r) ∨ ObjIndex.searchOp m op l v = .err .pattern := by
  cases op with
  | re =>
    cases v with
    | str s =>
      cases m with
      | some f => exact Or.inl ⟨_, rfl⟩
      | none => exact Or.inr rfl
    | _ => exact Or.inl ⟨_, rfl⟩
  | _ => exact Or.inl ⟨_, rfl⟩

/-- `m` is the matcher `re` evaluates; a comparison ignores it -/
theorem searchOp_eval {mo : Option Matcher} {m : Matcher} {op : Op} {l : FIdx} {v : Val} (hd : Desc l)
    (ht : op = .re → ∀ e ∈ l, e.1.tag = v.tag) (hm : ∀ s, op = .re → v = .str s → mo = some m) :
    ObjIndex.searchOp mo op l v = .ok (l.filter (fun e => Val.eval m op e.1 v)) := by
  cases op with
  | eq => exact congrArg Res.ok (searchEq_filter l v hd)
  | ne => exact congrArg Res.ok (searchNe_filter l v hd)
  | gt => exact congrArg Res.ok (searchGt_filter l v hd)
  | ge => exact congrArg Res.ok (searchGe_filter l v hd)
  | lt => exact congrArg Res.ok (searchLt_filter l v hd)
  | le => exact congrArg Res.ok (searchLe_filter l v hd)
  | re =>
    cases v
    case str s =>
      rw [hm s rfl rfl]
      exact congrArg Res.ok (searchRe_filter m l (ht rfl))
    -- a probe that is no string: no entry is a string, `re` holds of none
    all_goals
      rw [List.filter_eq_nil_iff.mpr fun e he hev => nomatch (eval_re_tag hev).symm.trans (ht rfl e he)]
      cases l with
      | nil => rfl
      | cons a t => obtain ⟨x, o⟩ := a; cases x <;> rfl

theorem searchOp_filter (m : Option Matcher) (op : Op) (hop : op ≠ .re) (l : FIdx) (k : Val) (h : Desc l) :
    ObjIndex.searchOp m op l k = .ok (l.filter (fun e => Val.eval (fun _ => false) op e.1 k)) :=
  searchOp_eval h (fun e => absurd e hop) (fun _ e => absurd e hop)

/-! ### the shape of an index: what no operation changes -/

def ObjIndex.sig (ix : ObjIndex) : List (Nat × Tag × Cons) := ix.fields.map (fun fi => (fi.pos, fi.cast, fi.cons))

/-- two indexes have the same fields (name, position, cast, constraints), whatever their content.
    An insert and a delete keep the shape and a reload keeps the fields, so an index that started as
    `ObjIndex.new descs` has that shape for good: the hypothesis
    `SameShape (ObjIndex.new l.descs) l.index` of the batch theorems. -/
def SameShape (a b : ObjIndex) : Prop :=
  a.fields.map (fun f => (f.name, f.pos, f.cast, f.cons)) = b.fields.map (fun f => (f.name, f.pos, f.cast, f.cons))

theorem SameShape.refl (a : ObjIndex) : SameShape a a := rfl
theorem SameShape.symm {a b : ObjIndex} (h : SameShape a b) : SameShape b a := Eq.symm h
theorem SameShape.trans {a b c : ObjIndex} (h : SameShape a b) (h' : SameShape b c) : SameShape a c :=
  Eq.trans h h'

theorem SameShape.sig {a b : ObjIndex} (h : SameShape a b) : a.sig = b.sig := by
  have := congrArg (List.map fun t : String × Nat × Tag × Cons => t.2) h
  rwa [List.map_map, List.map_map] at this

theorem insertOrUpdate_shape {ix ix' : ObjIndex} {o : Obj} (hr : ix.insertOrUpdate o = .ok ix') :
    SameShape ix' ix := by
  rcases insertOrUpdate_cases hr with ⟨oid, _, rfl⟩ | ⟨_, rfl⟩
  · simp only [SameShape, updIx, List.map_map, Function.comp_def]
  · simp only [SameShape, insIx, List.map_map, Function.comp_def]

theorem deleteByUUID_shape (ix : ObjIndex) (u : Nat) : SameShape (ix.deleteByUUID u) ix := by
  cases ho : ix.oidOf u with
  | none => rw [deleteByUUID_eq_none ho]; rfl
  | some oid =>
    rw [deleteByUUID_eq_some ho]
    simp only [SameShape, ObjIndex.deleteFields, List.map_map, Function.comp_def]

theorem sig_insert {ix ix' : ObjIndex} {o : Obj} (hr : ix.insertOrUpdate o = .ok ix') : ix'.sig = ix.sig :=
  (insertOrUpdate_shape hr).sig

theorem sig_delete (ix : ObjIndex) (u : Nat) : (ix.deleteByUUID u).sig = ix.sig := (deleteByUUID_shape ix u).sig

def UPos (ix : ObjIndex) (p : Nat) : Prop := ∃ fi ∈ ix.fields, fi.pos = p ∧ fi.cons.unique = true

theorem typed_iff_sig {ix : ObjIndex} {o : Obj} :
    o.Typed ix ↔ ∀ t ∈ ix.sig, ∃ v, o.field t.1 = .v v ∧ v.tag = t.2.1 := by
  unfold ObjIndex.sig
  rw [List.forall_mem_map]
  rfl

theorem upos_iff_sig {ix : ObjIndex} {p : Nat} : UPos ix p ↔ ∃ t ∈ ix.sig, t.1 = p ∧ t.2.2.unique = true := by
  constructor
  · rintro ⟨fi, h, e⟩
    exact ⟨_, List.mem_map_of_mem h, e⟩
  · rintro ⟨_, ht, e⟩
    obtain ⟨fi, h, rfl⟩ := List.mem_map.mp ht
    exact ⟨fi, h, e⟩

theorem typed_of_sig {ix ix' : ObjIndex} (h : ix'.sig = ix.sig) {o : Obj} (ht : o.Typed ix) : o.Typed ix' := by
  rw [typed_iff_sig] at ht ⊢
  rwa [h]

/-- the form used to carry a statement about the unique positions along a loop that changes the index -/
theorem upos_of_sig {a b : ObjIndex} (h : a.sig = b.sig) : UPos a = UPos b :=
  funext fun p => propext (by rw [upos_iff_sig, upos_iff_sig, h])

theorem insertOrUpdate_typed {ix ix' : ObjIndex} {o : Obj} (hr : ix.insertOrUpdate o = .ok ix')
    {o' : Obj} (ht : o'.Typed ix) : o'.Typed ix' :=
  typed_of_sig (sig_insert hr) ht

theorem deleteByUUID_typed (ix : ObjIndex) (u : Nat) {o' : Obj} (ht : o'.Typed ix) : o'.Typed (ix.deleteByUUID u) :=
  typed_of_sig (sig_delete ix u) ht

theorem SameShape.typed {a b : ObjIndex} (h : SameShape a b) {o : Obj} (ht : o.Typed a) : o.Typed b :=
  typed_of_sig h.sig.symm ht

theorem SameShape.upos_eq {a b : ObjIndex} (h : SameShape a b) : UPos a = UPos b := upos_of_sig h.sig

/-! ### `Obj.Typed` is decidable -/

def typedB (ix : ObjIndex) (o : Obj) : Bool :=
  ix.fields.all (fun fi => match o.field fi.pos with
                           | .v v => v.tag == fi.cast
                           | .opaque _ => false)

theorem typedB_iff {ix : ObjIndex} {o : Obj} : typedB ix o = true ↔ o.Typed ix := by
  unfold typedB Obj.Typed
  rw [List.all_eq_true]
  refine forall_congr' fun fi => forall_congr' fun _ => ?_
  cases o.field fi.pos with
  | v x => exact ⟨fun h => ⟨x, rfl, beq_iff_eq.mp h⟩, fun ⟨_, hv, ht⟩ => by cases hv; exact beq_iff_eq.mpr ht⟩
  | «opaque» _ => exact ⟨fun h => Bool.noConfusion h, fun ⟨_, hv, _⟩ => Leaf.noConfusion hv⟩

/-- so that the typing hypotheses of the property theorems are closed by `decide` at concrete objects and calls -/
instance (ix : ObjIndex) (o : Obj) : Decidable (o.Typed ix) := decidable_of_iff _ typedB_iff

end Sod
