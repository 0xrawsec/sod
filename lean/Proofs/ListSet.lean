/-
  ListSet.lean — a list in which one entry is replaced (`ts.set i t'`, the form of every step of
  both lock machines, `Proofs/Lock.lean` and `Proofs/Linearize.lean`): what a property of every
  entry, of every pair of distinct entries, or a sum over the entries comes to.
-/
namespace List
variable {α : Type} {ts : List α} {i : Nat} {t t' : α}

theorem getElem?_some_lt {a : Nat} {x : α} (h : ts[a]? = some x) : a < ts.length :=
  (getElem?_eq_some_iff.1 h).1

theorem getElem?_pair {a b x : α} {j : Nat} (h : [a, b][j]? = some x) :
    (j = 0 ∧ x = a) ∨ (j = 1 ∧ x = b) :=
  match j, h with
  | 0, h => .inl ⟨rfl, (Option.some.inj h).symm⟩
  | 1, h => .inr ⟨rfl, (Option.some.inj h).symm⟩

theorem getElem?_set_cases {j : Nat} {x : α} (h : (ts.set i t')[j]? = some x) :
    (j = i ∧ x = t') ∨ (j ≠ i ∧ ts[j]? = some x) := by
  by_cases hij : i = j
  · subst hij
    have hlt : i < ts.length := length_set ▸ getElem?_some_lt h
    exact .inl ⟨rfl, Option.some.inj (h.symm.trans (getElem?_set_self hlt))⟩
  · exact .inr ⟨Ne.symm hij, (getElem?_set_ne hij).symm.trans h⟩

theorem forall_getElem?_split (hi : ts[i]? = some t) {P : Nat → α → Prop} :
    (∀ j x, ts[j]? = some x → P j x) ↔ P i t ∧ ∀ j x, j ≠ i → ts[j]? = some x → P j x := by
  refine ⟨fun h => ⟨h i t hi, fun j x _ => h j x⟩, fun h j x hj => ?_⟩
  by_cases hji : j = i
  · subst hji
    cases hi.symm.trans hj
    exact h.1
  · exact h.2 j x hji hj

theorem forall_getElem?_set (hi : ts[i]? = some t) {P : Nat → α → Prop} :
    (∀ j x, (ts.set i t')[j]? = some x → P j x) ↔
      P i t' ∧ ∀ j x, j ≠ i → ts[j]? = some x → P j x := by
  rw [forall_getElem?_split (getElem?_set_self (getElem?_some_lt hi))]
  refine and_congr_right fun _ => forall_congr' fun j => forall_congr' fun x =>
    forall_congr' fun hne => ?_
  rw [getElem?_set_ne (Ne.symm hne)]

theorem forall₂_getElem?_set {P : α → α → Prop}
    (h : ∀ (a b : Nat) x y, a ≠ b → ts[a]? = some x → ts[b]? = some y → P x y)
    (hl : ∀ (b : Nat) y, b ≠ i → ts[b]? = some y → P t' y)
    (hr : ∀ (a : Nat) x, a ≠ i → ts[a]? = some x → P x t') :
    ∀ (a b : Nat) x y, a ≠ b → (ts.set i t')[a]? = some x → (ts.set i t')[b]? = some y → P x y := by
  intro a b x y hab ha hb
  rcases getElem?_set_cases ha with ⟨rfl, rfl⟩ | ⟨na, ha'⟩ <;>
    rcases getElem?_set_cases hb with ⟨rfl, rfl⟩ | ⟨nb, hb'⟩
  · exact absurd rfl hab
  · exact hl b y nb hb'
  · exact hr a x na ha'
  · exact h a b x y hab ha' hb'

theorem sum_map_set_lt (f : α → Nat) (hi : ts[i]? = some t) (hf : f t' < f t) :
    ((ts.set i t').map f).sum < (ts.map f).sum := by
  induction ts generalizing i with
  | nil => cases hi
  | cons a ts ih =>
    cases i with
    | zero =>
      cases hi
      exact Nat.add_lt_add_right hf _
    | succ i => exact Nat.add_lt_add_left (ih hi) _

end List
