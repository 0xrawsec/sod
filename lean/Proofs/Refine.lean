/-
  C01: the CRUD calls of a collection refine a finite map.

  The abstract specification (`Spec`, `Spec.Step`) is a map  uuid ↦ object  together with the list
  of stored identifiers.  It has no configuration at all: no cache, no pending store, no files, no
  index.  `step_refines` shows that one call on the concrete model (`Coll.step`) is matched by one
  step of the specification with the same observation, and that the simulation relation `Sim` is
  kept; `C01_refines` lifts this to every finite sequence of calls.  Since the specification is
  deterministic (`Spec.Step.det`), two collections with different settings but the same abstract
  content answer every call sequence alike (`C01_config_independent`).
-/
import Proofs.Crud
namespace Sod

/-! ### calls, observations, the concrete step -/

inductive Call
  | ins (o : Obj) (fresh : Nat)      -- InsertOrUpdate; `fresh` = identifier drawn for an unidentified object
  | del (u : Nat)                    -- Delete
  | get (u : Nat)                    -- Get / GetByUUID
  | exist (u : Nat)                  -- Exist
  | count                            -- Count
  | all                              -- All / AssignAll (as a set)

inductive Obs
  | unit (r : Res Unit)
  | obj (r : Res Obj)
  | bool (r : Res Bool)
  | nat (r : Res Nat)
  | objs (r : Res (List Obj))        -- compared up to permutation, see `ObsEq`

def Coll.step (E : Env) (c : Coll) : Call → Coll × Obs
  | .ins o fresh => ((c.insert E o fresh).1, .unit (c.insert E o fresh).2)
  | .del u => ((c.delete u).1, .unit (c.delete u).2)
  | .get u => ((c.get u).1, .obj (c.get u).2)
  | .exist u => ((c.exist u).1, .bool (c.exist u).2)
  | .count => (c.count.1, .nat c.count.2)
  | .all => (c.all.1, .objs c.all.2.1)

def Coll.run (E : Env) (c : Coll) : List Call → Coll × List Obs
  | [] => (c, [])
  | k :: ks => ((Coll.run E (c.step E k).1 ks).1, (c.step E k).2 :: (Coll.run E (c.step E k).1 ks).2)

/-- equality of observations; the result of `All` is a set (Go map order) -/
inductive ObsEq : Obs → Obs → Prop
  | refl (a : Obs) : ObsEq a a
  | perm {a b : List Obj} : a.Perm b → ObsEq (.objs (.ok a)) (.objs (.ok b))

inductive ObsListEq : List Obs → List Obs → Prop
  | nil : ObsListEq [] []
  | cons {a b : Obs} {as bs : List Obs} : ObsEq a b → ObsListEq as bs → ObsListEq (a :: as) (b :: bs)

theorem ObsEq.symm {a b : Obs} (h : ObsEq a b) : ObsEq b a := by
  cases h with
  | refl => exact .refl _
  | perm p => exact .perm p.symm

theorem ObsEq.trans {a b c : Obs} (h1 : ObsEq a b) (h2 : ObsEq b c) : ObsEq a c := by
  cases h1 with
  | refl => exact h2
  | perm p =>
    cases h2 with
    | refl => exact .perm p
    | perm q => exact .perm (p.trans q)

theorem ObsListEq.symm {a b : List Obs} (h : ObsListEq a b) : ObsListEq b a := by
  induction h with
  | nil => exact .nil
  | cons h _ ih => exact .cons h.symm ih

theorem ObsListEq.trans {a b c : List Obs} (h1 : ObsListEq a b) (h2 : ObsListEq b c) : ObsListEq a c := by
  induction h1 generalizing c with
  | nil => exact h2
  | cons h _ ih =>
    cases h2 with
    | cons h' t => exact .cons (h.trans h') (ih t)

/-! ### the abstract specification -/

structure SpecCfg where
  descs : List FieldDesc                 -- for canonicalisation
  uniquePos : List Nat                   -- positions of the leaves carrying a unique constraint

/-- abstract state: the map and the stored identifiers (in order of first insertion, no duplicates) -/
structure Spec where
  map : Nat → Option Obj
  dom : List Nat

def Spec.conflict (cfg : SpecCfg) (s : Nat → Option Obj) (dom : List Nat) (o : Obj) : Prop :=
  ∃ p ∈ cfg.uniquePos, ∃ u ∈ dom, u ≠ o.uuid ∧ ∃ o', s u = some o' ∧ o'.field p = o.field p

def Spec.incoming (cfg : SpecCfg) (E : Env) (o : Obj) : Obj := E.canon cfg.descs (E.transform o)

def Spec.put (s : Spec) (o : Obj) : Spec :=
  { map := updView s.map o.uuid (some o), dom := if o.uuid ∈ s.dom then s.dom else s.dom ++ [o.uuid] }

def Spec.remove (s : Spec) (u : Nat) : Spec :=
  { map := updView s.map u none, dom := s.dom.filter (· != u) }

inductive Spec.Step (cfg : SpecCfg) (E : Env) : Spec → Call → Spec → Obs → Prop
  | insInvalid (s : Spec) (o : Obj) (fresh : Nat) :
      E.validate (Spec.incoming cfg E o) = false →
      Step cfg E s (.ins o fresh) s (.unit (.err .invalid))
  | insUnserial (s : Spec) (o : Obj) (fresh : Nat) :
      E.validate (Spec.incoming cfg E o) = true →
      E.serialisable (assignNew (Spec.incoming cfg E o) fresh) = false →
      Step cfg E s (.ins o fresh) s (.unit (.err .other))
  | insConflict (s : Spec) (o : Obj) (fresh : Nat) :
      E.validate (Spec.incoming cfg E o) = true →
      E.serialisable (assignNew (Spec.incoming cfg E o) fresh) = true →
      Spec.conflict cfg s.map s.dom (assignNew (Spec.incoming cfg E o) fresh) →
      Step cfg E s (.ins o fresh) s (.unit (.err .unique))
  | insOk (s : Spec) (o : Obj) (fresh : Nat) :
      E.validate (Spec.incoming cfg E o) = true →
      E.serialisable (assignNew (Spec.incoming cfg E o) fresh) = true →
      ¬ Spec.conflict cfg s.map s.dom (assignNew (Spec.incoming cfg E o) fresh) →
      Step cfg E s (.ins o fresh) (s.put (assignNew (Spec.incoming cfg E o) fresh)) (.unit (.ok ()))
  | del (s : Spec) (u : Nat) : Step cfg E s (.del u) (s.remove u) (.unit (.ok ()))
  | get (s : Spec) (u : Nat) :
      Step cfg E s (.get u) s (.obj (match s.map u with | some o => .ok o | none => .err .notFound))
  | exist (s : Spec) (u : Nat) : Step cfg E s (.exist u) s (.bool (.ok (s.map u).isSome))
  | count (s : Spec) : Step cfg E s .count s (.nat (.ok s.dom.length))
  | all (s : Spec) (os : List Obj) : os.Perm (s.dom.filterMap s.map) → Step cfg E s .all s (.objs (.ok os))

inductive Spec.Run (cfg : SpecCfg) (E : Env) : Spec → List Call → Spec → List Obs → Prop
  | nil (s : Spec) : Run cfg E s [] s []
  | cons {s s1 s2 : Spec} {k : Call} {ks : List Call} {ob : Obs} {obs : List Obs} :
      Spec.Step cfg E s k s1 ob → Run cfg E s1 ks s2 obs → Run cfg E s (k :: ks) s2 (ob :: obs)

open Classical in
theorem Spec.Step.ins_eq {cfg : SpecCfg} {E : Env} {s s' : Spec} {o : Obj} {fresh : Nat} {ob : Obs}
    (h : Spec.Step cfg E s (.ins o fresh) s' ob) :
    (s', ob) =
      if E.validate (Spec.incoming cfg E o) then
        if E.serialisable (assignNew (Spec.incoming cfg E o) fresh) then
          if Spec.conflict cfg s.map s.dom (assignNew (Spec.incoming cfg E o) fresh) then (s, .unit (.err .unique))
          else (s.put (assignNew (Spec.incoming cfg E o) fresh), .unit (.ok ()))
        else (s, .unit (.err .other))
      else (s, .unit (.err .invalid)) := by
  cases h with
  | insInvalid _ _ hv => rw [if_neg (ne_true_of_eq_false hv)]
  | insUnserial _ _ hv hs => rw [if_pos hv, if_neg (ne_true_of_eq_false hs)]
  | insConflict _ _ hv hs hc => rw [if_pos hv, if_pos hs, if_pos hc]
  | insOk _ _ hv hs hc => rw [if_pos hv, if_pos hs, if_neg hc]

theorem Spec.Step.det {cfg : SpecCfg} {E : Env} {s s1 s2 : Spec} {k : Call} {o1 o2 : Obs}
    (h1 : Spec.Step cfg E s k s1 o1) (h2 : Spec.Step cfg E s k s2 o2) : s1 = s2 ∧ ObsEq o1 o2 := by
  cases k with
  | ins o fresh =>
    obtain ⟨rfl, rfl⟩ := Prod.mk.inj (h1.ins_eq.trans h2.ins_eq.symm)
    exact ⟨rfl, .refl _⟩
  | del _ | get _ | exist _ | count =>
    -- a call with one rule: both derivations are that rule
    cases h1
    cases h2
    exact ⟨rfl, .refl _⟩
  | all =>
    cases h1 with
    | all _ p => cases h2 with | all _ q => exact ⟨rfl, .perm (p.trans q.symm)⟩

theorem Spec.Run.det {cfg : SpecCfg} {E : Env} {s s1 s2 : Spec} {ks : List Call} {o1 o2 : List Obs}
    (h1 : Spec.Run cfg E s ks s1 o1) (h2 : Spec.Run cfg E s ks s2 o2) : s1 = s2 ∧ ObsListEq o1 o2 := by
  induction h1 generalizing s2 o2 with
  | nil =>
    cases h2
    exact ⟨rfl, .nil⟩
  | cons st _ ih =>
    cases h2 with
    | cons st' r' =>
      obtain ⟨e, ho⟩ := st.det st'
      subst e
      obtain ⟨e', ho'⟩ := ih r'
      exact ⟨e', .cons ho ho'⟩

/-! ### the unique positions of an index; what never changes in a loaded schema (`Stable`) -/

def ObjIndex.uniquePos (ix : ObjIndex) : List Nat := (ix.fields.filter (·.cons.unique)).map (·.pos)

theorem mem_uniquePos {ix : ObjIndex} {p : Nat} : p ∈ ix.uniquePos ↔ UPos ix p :=
  List.mem_map.trans
    ⟨fun ⟨fi, hf, hp⟩ => ⟨fi, (List.mem_filter.mp hf).1, hp, (List.mem_filter.mp hf).2⟩,
     fun ⟨fi, h1, h3, h2⟩ => ⟨fi, List.mem_filter.mpr ⟨h1, h2⟩, h3⟩⟩

structure Stable (l l' : Loaded) : Prop where
  descs : l'.descs = l.descs
  settings : l'.settings = l.settings
  sig : l'.index.sig = l.index.sig

theorem Stable.refl (l : Loaded) : Stable l l := ⟨rfl, rfl, rfl⟩

theorem Stable.trans {l l' l'' : Loaded} (h1 : Stable l l') (h2 : Stable l' l'') : Stable l l'' :=
  ⟨h2.descs.trans h1.descs, h2.settings.trans h1.settings, h2.sig.trans h1.sig⟩

/-! ### the simulation relation -/

structure Sim (cfg : SpecCfg) (c : Coll) (l : Loaded) (s : Spec) : Prop where
  inv   : Inv' c l
  map   : s.map = c.view
  dom   : s.dom.Perm l.index.uuids
  descs : cfg.descs = l.descs
  upos  : ∀ p, p ∈ cfg.uniquePos ↔ p ∈ l.index.uniquePos

theorem Sim.dom_nodup {cfg : SpecCfg} {c : Coll} {l : Loaded} {s : Spec} (h : Sim cfg c l s) : s.dom.Nodup :=
  h.dom.nodup_iff.mpr h.inv.wf.uuidNodup

theorem Sim.mem_dom {cfg : SpecCfg} {c : Coll} {l : Loaded} {s : Spec} (h : Sim cfg c l s) (u : Nat) :
    u ∈ s.dom ↔ (s.map u).isSome := by
  rw [h.dom.mem_iff, h.map]
  exact h.inv.dom u

/-- the object a call inserts has a value of the right kind in every indexed field
    (Go's type system; `Typed` only looks at `ObjIndex.sig`, which never changes) -/
def CallTyped (E : Env) (l : Loaded) : Call → Prop
  | .ins o fresh => (assignNew (E.canon l.descs (E.transform o)) fresh).Typed l.index
  | _ => True

def CallsTyped (E : Env) (l : Loaded) (calls : List Call) : Prop := ∀ k ∈ calls, CallTyped E l k

theorem CallTyped.congr {E : Env} {l l' : Loaded} (hd : l'.descs = l.descs) (hg : l'.index.sig = l.index.sig)
    {k : Call} (h : CallTyped E l k) : CallTyped E l' k := by
  cases k with
  | ins o fresh =>
    show (assignNew (E.canon l'.descs (E.transform o)) fresh).Typed l'.index
    rw [hd]
    exact typed_of_sig hg h
  | _ => trivial

theorem callsTyped_iff {E : Env} {l : Loaded} {calls : List Call} :
    CallsTyped E l calls ↔
      ∀ o fresh, Call.ins o fresh ∈ calls → (assignNew (E.canon l.descs (E.transform o)) fresh).Typed l.index := by
  constructor
  · intro h o fresh hm
    exact h _ hm
  · intro h k hk
    cases k with
    | ins o fresh => exact h o fresh hk
    | _ => trivial

instance (E : Env) (l : Loaded) (k : Call) : Decidable (CallTyped E l k) := by
  cases k <;> (unfold CallTyped; infer_instance)

instance (E : Env) (l : Loaded) (calls : List Call) : Decidable (CallsTyped E l calls) :=
  inferInstanceAs (Decidable (∀ k ∈ calls, CallTyped E l k))

/-- a conflict is a counterexample to `Free` (`Indexes.satisfyAll_ok_iff`); `u = o.uuid` being decidable, there
    being none gives `Free` back -/
theorem no_conflict_iff {cfg : SpecCfg} {c : Coll} {l : Loaded} {dom : List Nat} (h : Inv c l)
    (hdom : dom.Perm l.index.uuids) (hup : ∀ p, p ∈ cfg.uniquePos ↔ p ∈ l.index.uniquePos)
    {o : Obj} (ht : o.Typed l.index) :
    l.index.satisfyAll o = Res.ok () ↔ ¬ Spec.conflict cfg c.view dom o := by
  have hU : ∀ p, p ∈ cfg.uniquePos ↔ UPos l.index p := fun p => (hup p).trans mem_uniquePos
  rw [h.indexes.satisfyAll_ok_iff ht]
  constructor
  · rintro hF ⟨p, hp, u, _, hne, o', hv, hf⟩
    exact hne (hF p ((hU p).mp hp) u o' hv hf)
  · intro hnc p hp u o' hv hf
    exact Decidable.byContradiction fun hne =>
      hnc ⟨p, (hU p).mpr hp, u, hdom.mem_iff.mpr ((h.dom u).mpr (hv ▸ rfl)), hne, o', hv, hf⟩

/-! ### one call -/

theorem Sim.next {cfg : SpecCfg} {c c' : Coll} {l l' : Loaded} {s s' : Spec} (hs : Sim cfg c l s) (hi : Inv' c' l')
    (hst : Stable l l') (hm : s'.map = c'.view) (hd : s'.dom.Perm l'.index.uuids) : Sim cfg c' l' s' :=
  ⟨hi, hm, hd, hs.descs.trans hst.descs.symm, fun p =>
    (hs.upos p).trans (by rw [mem_uniquePos, mem_uniquePos, upos_of_sig hst.sig])⟩

theorem Spec.put_dom {s : Spec} {ix ix' : ObjIndex} {o : Obj} (hd : s.dom.Perm ix.uuids)
    (hr : ix.insertOrUpdate o = .ok ix') : (s.put o).dom.Perm ix'.uuids := by
  show (if o.uuid ∈ s.dom then s.dom else s.dom ++ [o.uuid]).Perm ix'.uuids
  rw [insertOrUpdate_uuids hr]
  by_cases hm : o.uuid ∈ s.dom
  · rw [if_pos hm, if_pos (hd.mem_iff.mp hm)]
    exact hd
  · rw [if_neg hm, if_neg (fun h => hm (hd.mem_iff.mpr h))]
    exact hd.append_right _

theorem Spec.remove_dom {s : Spec} {ix : ObjIndex} (hd : s.dom.Perm ix.uuids) (hw : ix.WF) (u : Nat) :
    (s.remove u).dom.Perm (ix.deleteByUUID u).uuids := by
  show (s.dom.filter (· != u)).Perm (ix.deleteByUUID u).uuids
  rw [deleteByUUID_uuids hw]
  exact hd.filter _

theorem refines_of {cfg : SpecCfg} {E : Env} {c c' : Coll} {l l' : Loaded} {s s' : Spec} {call : Call}
    {ob obS : Obs} (he : c.step E call = (c', ob)) (hst : Spec.Step cfg E s call s' obS) (ho : ObsEq ob obS)
    (hsim : Sim cfg c' l' s') (hl : Stable l l') :
    ∃ l' s' obsSpec, Spec.Step cfg E s call s' obsSpec ∧ ObsEq (c.step E call).2 obsSpec ∧
      Sim cfg (c.step E call).1 l' s' ∧ Stable l l' := by
  rw [he]
  exact ⟨l', s', obS, hst, ho, hsim, hl⟩

theorem step_refines {cfg : SpecCfg} {E : Env} {c : Coll} {l : Loaded} {s : Spec} {call : Call}
    (hs : Sim cfg c l s) (ht : CallTyped E l call) :
    ∃ l' s' obsSpec, Spec.Step cfg E s call s' obsSpec ∧ ObsEq (c.step E call).2 obsSpec ∧
      Sim cfg (c.step E call).1 l' s' ∧ Stable l l' := by
  have hinv := hs.inv
  -- the rules of `Spec.Step` speak of `s.map` and `cfg.descs`: name them as the collection does
  obtain ⟨sm, sd⟩ := s
  obtain ⟨cd, cu⟩ := cfg
  obtain rfl : sm = c.view := hs.map
  obtain rfl : cd = l.descs := hs.descs
  cases call with
  | get u =>
    obtain ⟨h1, h2, h3, _⟩ := get_spec' hinv u
    exact refines_of (congrArg (fun r => ((c.get u).1, Obs.obj r)) h1) (.get _ u) (.refl _)
      (hs.next h2 (.refl l) h3.symm hs.dom) (.refl l)
  | exist u =>
    exact refines_of (congrArg (fun r => (r.1, Obs.bool r.2)) (exist_spec hinv.toInv u)) (.exist _ u) (.refl _) hs
      (.refl l)
  | count =>
    have he := congrArg (fun r => (r.1, Obs.nat r.2)) (count_spec hinv.toInv)
    rw [← hs.dom.length_eq] at he
    exact refines_of he (.count _) (.refl _) hs (.refl l)
  | all =>
    obtain ⟨c', h1, h2, h3, h4⟩ := all_eq hinv.toInv
    exact refines_of (congrArg (fun r => (r.1, Obs.objs r.2.1)) h1) (.all _ _ (.refl _))
      (.perm (hs.dom.symm.filterMap _)) (hs.next (hinv.of_cacheOff h2 h4) (.refl l) h3.symm hs.dom) (.refl l)
  | del u =>
    obtain ⟨h3, h4⟩ := delState_inv' hinv u
    have hst : Stable l { l with index := l.index.deleteByUUID u } := ⟨rfl, rfl, sig_delete _ u⟩
    exact refines_of (congrArg (fun r => (r.1, Obs.unit r.2)) (delete_eq hinv.toInv u)) (.del _ u) (.refl _)
      (hs.next h3 hst h4.symm (Spec.remove_dom hs.dom hinv.wf u)) hst
  | ins o fresh =>
    have ht' : (storedObj E l o fresh).Typed l.index := ht
    have hcf := no_conflict_iff (cfg := ⟨l.descs, cu⟩) hinv.toInv hs.dom hs.upos ht'
    have he : ∀ {r}, c.insert E o fresh = r → c.step E (.ins o fresh) = (r.1, .unit r.2) := fun e => e ▸ rfl
    rcases insert_cases hinv.toInv o fresh ht' with
      ⟨hv, hi⟩ | ⟨hv, hse, hi⟩ | ⟨hv, hse, hu, hi⟩ | ⟨hv, hse, hu, ix', hr, hi⟩
    · exact refines_of (he hi) (.insInvalid _ o fresh hv) (.refl _) hs (.refl l)
    · exact refines_of (he hi) (.insUnserial _ o fresh hv hse) (.refl _) hs (.refl l)
    · exact refines_of (he hi) (.insConflict _ o fresh hv hse
        (Classical.not_not.mp fun hnc => nomatch hu.symm.trans (hcf.mpr hnc))) (.refl _) hs (.refl l)
    · obtain ⟨h2, h3⟩ := insState_inv' hinv ht' hr true
      have hst : Stable l { l with index := ix' } := ⟨rfl, rfl, sig_insert hr⟩
      exact refines_of (he hi) (.insOk _ o fresh hv hse (hcf.mp hu)) (.refl _)
        (hs.next h2 hst h3.symm (Spec.put_dom hs.dom hr)) hst

theorem C01_refines {cfg : SpecCfg} {E : Env} {calls : List Call} {c : Coll} {l : Loaded} {s : Spec}
    (hs : Sim cfg c l s) (ht : CallsTyped E l calls) :
    ∃ l' s' obsSpec, Spec.Run cfg E s calls s' obsSpec ∧ ObsListEq (c.run E calls).2 obsSpec ∧
      Sim cfg (c.run E calls).1 l' s' ∧ Stable l l' := by
  induction calls generalizing c l s with
  | nil => exact ⟨l, s, [], .nil s, .nil, hs, Stable.refl l⟩
  | cons k ks ih =>
    obtain ⟨l1, s1, ob, h1, h2, h3, h4⟩ := step_refines (E := E) hs (ht k List.mem_cons_self)
    have ht1 : CallsTyped E l1 ks := fun k' hk' => (ht k' (List.mem_cons_of_mem _ hk')).congr h4.descs h4.sig
    obtain ⟨l2, s2, obs, i1, i2, i3, i4⟩ := ih h3 ht1
    exact ⟨l2, s2, ob :: obs, .cons h1 i1, .cons h2 i2, i3, h4.trans i4⟩

/-- two collections with different settings (cache on/off, synchronous/asynchronous) but the same
    abstract content answer every sequence of calls alike -/
theorem C01_config_independent {cfg : SpecCfg} {E : Env} {calls : List Call} {c₁ c₂ : Coll} {l₁ l₂ : Loaded}
    {s : Spec} (h₁ : Sim cfg c₁ l₁ s) (h₂ : Sim cfg c₂ l₂ s)
    (t₁ : CallsTyped E l₁ calls) (t₂ : CallsTyped E l₂ calls) :
    ObsListEq (c₁.run E calls).2 (c₂.run E calls).2 ∧
    ∃ l₁' l₂' s', Sim cfg (c₁.run E calls).1 l₁' s' ∧ Sim cfg (c₂.run E calls).1 l₂' s' := by
  obtain ⟨l₁', s₁, o₁, r₁, e₁, m₁, _⟩ := C01_refines h₁ t₁
  obtain ⟨l₂', s₂, o₂, r₂, e₂, m₂, _⟩ := C01_refines h₂ t₂
  obtain ⟨es, eo⟩ := r₁.det r₂
  subst es
  exact ⟨e₁.trans (eo.trans e₂.symm), l₁', l₂', s₁, m₁, m₂⟩

def Call.isRead : Call → Bool
  | .ins _ _ => false
  | .del _ => false
  | _ => true

theorem callsTyped_of_reads {E : Env} {l : Loaded} {ks : List Call} (hr : ∀ k ∈ ks, k.isRead = true) :
    CallsTyped E l ks := by
  intro k hk
  have := hr k hk
  cases k with
  | ins o f => cases this
  | _ => trivial

theorem Spec.Run.reads {cfg : SpecCfg} {E : Env} {s s' : Spec} {ks : List Call} {obs : List Obs}
    (h : Spec.Run cfg E s ks s' obs) (hr : ∀ k ∈ ks, k.isRead = true) : s' = s := by
  induction h with
  | nil => rfl
  | cons st _ ih =>
    rw [ih (fun k hk => hr k (List.mem_cons_of_mem _ hk))]
    have := hr _ List.mem_cons_self
    cases st with
    | get | exist | count | all => rfl
    | insInvalid | insUnserial | insConflict | insOk | del => cases this

/-- an identifier that is not stored is answered `notFound` every time it is tried … -/
theorem C01_absent_always {cfg : SpecCfg} {c : Coll} {l : Loaded} {s : Spec} (hs : Sim cfg c l s)
    (u : Nat) (ha : s.map u = none) (n : Nat) :
    ((iter n (fun c => (c.get u).1) c).get u).2 = Res.err Err.notFound :=
  get_absent_always hs.inv.toInv u (by rw [← hs.map]; exact ha) n

/-- … also after any number of intervening reads (`Get` of any identifier, `Exist`, `Count`, `All`):
    filling the cache never makes an absent object appear -/
theorem C01_absent_after_reads {cfg : SpecCfg} {E : Env} {c : Coll} {l : Loaded} {s : Spec} (hs : Sim cfg c l s)
    (u : Nat) (ha : s.map u = none) (reads : List Call) (hr : ∀ k ∈ reads, k.isRead = true) :
    ((c.run E reads).1.step E (.get u)).2 = .obj (.err .notFound) := by
  obtain ⟨l', s', obs, r, _, m, _⟩ := C01_refines (E := E) hs (callsTyped_of_reads hr)
  have := r.reads hr
  subst this
  show Obs.obj ((c.run E reads).1.get u).2 = _
  rw [(get_spec' m.inv u).1, ← m.map, ha]

/-! ### non-vacuity: the empty collection, under every setting -/

def emptyLoaded (descs : List FieldDesc) (st : Settings) : Loaded :=
  { descs := descs, settings := st, index := ObjIndex.new descs, flusher := st.async.isSome }

/-- the state the abstract initial state is related to (`sim_init`): no directory, no schema file, `flusher`
    preset to `st.async.isSome`.  Not what `DB.Create` returns: that is `created` (Proofs/Canon.lean). -/
def emptyColl (descs : List FieldDesc) (st : Settings) : Coll :=
  { live := [], mem := some (emptyLoaded descs st) }

theorem sim_init (descs : List FieldDesc) (st : Settings) :
    Sim ⟨descs, (ObjIndex.new descs).uniquePos⟩ (emptyColl descs st) (emptyLoaded descs st) ⟨fun _ => none, []⟩ :=
  ⟨inv_empty rfl rfl rfl rfl rfl id, rfl, List.Perm.refl _, rfl, fun _ => Iff.rfl⟩

/-- an accepted insert stores the object under its own identifier when it has one, under the
    freshly drawn one otherwise.  `hT` (the user's `Transform` hook leaves the identifier alone) is
    needed: see `C01_uuid_kept_needs_hT`. -/
theorem C01_uuid_kept {cfg : SpecCfg} {E : Env} {c : Coll} {l : Loaded} {s : Spec} {o : Obj} {fresh : Nat}
    (hs : Sim cfg c l s) (ht : CallTyped E l (.ins o fresh))
    (hacc : (c.step E (.ins o fresh)).2 = .unit (.ok ()))
    (hT : (E.transform o).uuid = o.uuid) :
    (o.uuid ≠ 0 → (c.step E (.ins o fresh)).1.view o.uuid = some (E.canon l.descs (E.transform o))) ∧
    (o.uuid = 0 → (c.step E (.ins o fresh)).1.view fresh =
                    some { E.canon l.descs (E.transform o) with uuid := fresh }) := by
  have hcu : (E.canon l.descs (E.transform o)).uuid = o.uuid := hT
  have hx : (c.insert E o fresh).1.view (assignNew (E.canon l.descs (E.transform o)) fresh).uuid =
      some (assignNew (E.canon l.descs (E.transform o)) fresh) :=
    insert_accepted_view hs.inv o fresh ht (Obs.unit.inj hacc)
  constructor
  · intro hne
    rwa [assignNew_of_ne (hcu ▸ hne), hcu] at hx
  · intro h0
    rwa [assignNew_of_eq (hcu.trans h0)] at hx

/-- `C01_uuid_kept` without `hT` is false: a `Transform` hook that rewrites the identifier makes an
    identified object land somewhere else -/
theorem C01_uuid_kept_needs_hT :
    ∃ (cfg : SpecCfg) (E : Env) (c : Coll) (l : Loaded) (s : Spec) (o : Obj) (fresh : Nat),
      Sim cfg c l s ∧ CallTyped E l (.ins o fresh) ∧ (c.step E (.ins o fresh)).2 = .unit (.ok ()) ∧
      o.uuid ≠ 0 ∧ (c.step E (.ins o fresh)).1.view o.uuid = none := by
  refine ⟨_, { Counter.E0 with transform := fun o => { o with uuid := 9 } }, _, _, _, Counter.o5, 7,
    sim_init [] {}, ?_, rfl, by decide, rfl⟩
  intro fi hfi
  cases hfi

end Sod
