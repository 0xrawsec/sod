/-
  C18, the on-disk layout: one file per object, named by its uuid, found again by
  directory listing.
-/
import Proofs.Crud
import SodModel.Layout

namespace Sod.Layout

theorem uuidShaped_length (u : Name) (h : uuidShaped u = true) : u.length = 36 :=
  eq_of_beq (Bool.and_eq_true_iff.mp h).1

theorem uuidShaped_chars (u : Name) (h : uuidShaped u = true) : ∀ c ∈ u, c = '-' ∨ isHex c = true := by
  intro c hc
  obtain ⟨i, hi, rfl⟩ := List.getElem_of_mem hc
  have := List.all_eq_true.mp (Bool.and_eq_true_iff.mp h).2 i
    (List.mem_range.mpr (uuidShaped_length u h ▸ hi))
  simp only [List.getD_eq_getElem?_getD, List.getElem?_eq_getElem hi, Option.getD_some] at this
  split at this
  · exact Or.inl (eq_of_beq this)
  · exact Or.inr this

theorem uuidShaped_no_dot (u : Name) (h : uuidShaped u = true) : '.' ∉ u :=
  fun hm => (uuidShaped_chars u h '.' hm).elim (by decide) (by decide)

theorem uuidPart_append (u rest : Name) (h : '.' ∉ u) : uuidPart (u ++ rest) = u ++ uuidPart rest := by
  induction u with
  | nil => rfl
  | cons a t ih =>
    rw [List.cons_append, uuidPart, if_neg (List.ne_of_not_mem_cons h).symm,
      ih (List.not_mem_of_not_mem_cons h), List.cons_append]

theorem uuidPart_no_dot (u : Name) (h : '.' ∉ u) : uuidPart u = u := by
  have := uuidPart_append u [] h
  rwa [List.append_nil, uuidPart, List.append_nil] at this

theorem uuidPart_no_dot' (n : Name) : '.' ∉ uuidPart n := by
  induction n with
  | nil => exact List.not_mem_nil
  | cons a t ih =>
    rw [uuidPart]
    split
    · exact List.not_mem_nil
    · next ha => exact fun hm => (List.mem_cons.mp hm).elim (fun e => ha e.symm) ih

theorem discover_iff (n u : Name) : discover n = some u ↔ (uuidPart n = u ∧ uuidShaped u = true) := by
  show (if uuidShaped (uuidPart n) = true then some (uuidPart n) else none) = some u ↔ _
  split
  · next hs => exact ⟨fun h => Option.some.inj h ▸ ⟨rfl, hs⟩, fun h => h.1 ▸ rfl⟩
  · next hs => exact ⟨nofun, fun h => absurd (h.1 ▸ h.2) hs⟩

theorem discover_append_dot (u rest : Name) (hu : uuidShaped u = true) :
    discover (u ++ '.' :: rest) = some u :=
  (discover_iff _ _).mpr ⟨(uuidPart_append u _ (uuidShaped_no_dot u hu)).trans (List.append_nil u), hu⟩

theorem fileName_injective (ext : Name) (gz : Bool) {u v : Name}
    (h : fileName ext gz u = fileName ext gz v) : u = v :=
  List.append_cancel_right (List.append_cancel_right h)

/-- temporary files (".<name>.tmp") and dot files are never taken for objects -/
theorem discover_dot_prefixed (rest : Name) : discover ('.' :: rest) = none := rfl

theorem discover_schema : discover "schema.json".toList = none := by decide +kernel

example : camelToSnake "main.T".toList = "main._t".toList := by decide +kernel
example : camelToSnake "TestTest".toList = "test_test".toList := by decide +kernel
example : camelToSnake "OneTWOThree".toList = "one_two_three".toList := by decide +kernel
example : camelToSnake "One2Three".toList = "one_2_three".toList := by decide +kernel
example : camelToSnake "123".toList = "123".toList := by decide +kernel

end Sod.Layout

namespace Sod

theorem file_named_by_uuid {c : Coll} {l : Loaded} (h : Inv' c l) {u : Nat} {o : Obj}
    (hf : c.disk.files.get? u = some o) : o.uuid = u :=
  h.keyedF.get? hf

end Sod
