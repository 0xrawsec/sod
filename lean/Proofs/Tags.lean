/-
  Tags.lean — the constraints a struct tag gives (C16): one token sets its own flag (`unique` also
  `index`), so a list of tokens sets exactly the flags whose tokens occur, in any order.
-/
import SodModel.Tags
namespace Sod

theorem addTag_eq (c : Cons) (t : String) :
    c.addTag t = ⟨c.index || "index" == t || "unique" == t, c.unique || "unique" == t, c.upper || "upper" == t,
      c.lower || "lower" == t⟩ := by
  fun_cases Cons.addTag c t
  · simp only [String.reduceBEq, Bool.or_false, Bool.or_true]
  · simp only [String.reduceBEq, Bool.or_false, Bool.or_true]
  · simp only [String.reduceBEq, Bool.or_false, Bool.or_true]
  · simp only [String.reduceBEq, Bool.or_false, Bool.or_true]
  · next h1 h2 h3 h4 =>
    rw [beq_eq_false_iff_ne.mpr (Ne.symm h1), beq_eq_false_iff_ne.mpr (Ne.symm h2),
      beq_eq_false_iff_ne.mpr (Ne.symm h3), beq_eq_false_iff_ne.mpr (Ne.symm h4)]
    simp only [Bool.or_false]

theorem foldl_addTag_eq (tags : List String) (c : Cons) :
    tags.foldl Cons.addTag c = ⟨c.index || tags.contains "index" || tags.contains "unique",
      c.unique || tags.contains "unique", c.upper || tags.contains "upper", c.lower || tags.contains "lower"⟩ := by
  induction tags generalizing c with
  | nil => simp only [List.foldl_nil, List.contains_nil, Bool.or_false]
  | cons t ts ih =>
    rw [List.foldl_cons, ih, addTag_eq]
    simp only [List.contains_cons, Bool.or_assoc, Bool.or_left_comm (ts.contains _)]

theorem ofTags_spec (tags : List String) :
    (Cons.ofTags tags).index = (tags.contains "index" || tags.contains "unique") ∧
    (Cons.ofTags tags).unique = tags.contains "unique" ∧
    (Cons.ofTags tags).upper = tags.contains "upper" ∧
    (Cons.ofTags tags).lower = tags.contains "lower" := by
  unfold Cons.ofTags
  rw [foldl_addTag_eq]
  exact ⟨rfl, rfl, rfl, rfl⟩

theorem ofTags_perm {a b : List String} (h : a.Perm b) : Cons.ofTags a = Cons.ofTags b := by
  unfold Cons.ofTags
  rw [foldl_addTag_eq, foldl_addTag_eq]
  simp only [h.contains_eq]

end Sod
