/-
  Durability (C04), `Control` and `Repair` (C11), crash points (C05).

  A completed synchronous call is summed up by `SyncStep`: the directory mutations it performed, the
  handle left consistent and `Synced`.  A new handle on a synced directory denotes the same objects
  (`reopen_load`).  Both loops of `Repair` keep one invariant of the index, `RepInv`.  A crash after `j`
  mutations of a call leaves `c.disk.applyAll (ops.take j)`: `Detected` or `Consistent`, except after an
  update of an indexed value (`crash_update_counterexample`).
-/
import Proofs.Async
namespace Sod

/-! ### C11: what `Control` answers -/

/-- the Go struct did not change shape w.r.t. the stored descriptors -/
def ShapeOk (c : Coll) (l : Loaded) : Prop := descsCompatFields l.descs c.live = true

theorem ShapeOk.congr {c c' : Coll} {l l' : Loaded} (hk : ShapeOk c l) (hd : l'.descs = l.descs)
    (hl : c'.live = c.live) : ShapeOk c' l' := by
  unfold ShapeOk
  rw [hd, hl]
  exact hk

theorem Inv'.dom_files {c : Coll} {l : Loaded} (h : Inv' c l) (hp : c.pending = []) (u : Nat) :
    u ∈ l.index.uuids ↔ (c.disk.files.get? u).isSome = true := by
  rw [h.dom u, view_nopend hp]

theorem Coll.control_of_mem {c : Coll} {l : Loaded} (hm : c.mem = some l) :
    c.control = controlLoaded c.live c.disk l := by
  unfold Coll.control
  rw [hm]

theorem Coll.control_iff {c : Coll} {l : Loaded} (hm : c.mem = some l) :
    c.control = .ok () ↔
      descsCompatFields l.descs c.live = true ∧ l.index.control = true ∧
      (∀ u, u ∈ c.disk.files.keys → u ∈ l.index.uuids) ∧ (∀ u, u ∈ l.index.uuids → c.disk.files.has u = true) := by
  rw [Coll.control_of_mem hm]
  exact controlLoaded_iff _ _ _

theorem control_ok_of_inv {c : Coll} {l : Loaded} (h : Inv' c l) (hp : c.pending = []) (hk : ShapeOk c l) :
    controlLoaded c.live c.disk l = .ok () :=
  control_ok_of hk h.wf (h.dom_files hp)

theorem control_call_ok_of_inv {c : Coll} {l : Loaded} (h : Inv' c l) (hp : c.pending = []) (hk : ShapeOk c l) :
    c.control = .ok () :=
  (Coll.control_of_mem h.mem).trans (control_ok_of_inv h hp hk)

/-! ### C04: synchronous mode — every completed call has committed -/

/-- `dir`: with the directory in place a synchronous call logs no `mkdir` (`insState_sync`, `delState_sync`);
    reopening reads the schema file and the pending store only (`reopen_load`) -/
def Synced (c : Coll) (l : Loaded) : Prop := c.disk.schema = some l.img ∧ c.disk.dir = true ∧ c.pending = []

theorem Synced.schema {c : Coll} {l : Loaded} (h : Synced c l) : c.disk.schema = some l.img := h.1
theorem Synced.dir {c : Coll} {l : Loaded} (h : Synced c l) : c.disk.dir = true := h.2.1
theorem Synced.pending {c : Coll} {l : Loaded} (h : Synced c l) : c.pending = [] := h.2.2

def delOps (c : Coll) (l : Loaded) (u : Nat) : List FsOp :=
  if c.disk.files.has u then [.rmObj u, .writeSchema ({ l with index := l.index.deleteByUUID u } : Loaded).img]
  else [.writeSchema ({ l with index := l.index.deleteByUUID u } : Loaded).img]

theorem delOps_eq {c : Coll} {l : Loaded} (h : Inv' c l) (hp : c.pending = []) (u : Nat) :
    delOps c l u =
      if u ∈ l.index.uuids then [.rmObj u, .writeSchema ({ l with index := l.index.deleteByUUID u } : Loaded).img]
      else [.writeSchema ({ l with index := l.index.deleteByUUID u } : Loaded).img] := by
  unfold delOps
  rw [OMap.has_iff_get?_isSome]
  exact ite_congr (propext (h.dom_files hp u).symm) (fun _ => rfl) (fun _ => rfl)

theorem commit_proj {c : Coll} (l : Loaded) (h : c.disk.dir = true) :
    (c.commit l).disk = c.disk.apply (.writeSchema l.img) ∧ (c.commit l).log = c.log ++ [.writeSchema l.img] ∧
    (c.commit l).live = c.live := by
  rw [commit_of_dir l h]
  exact ⟨rfl, rfl, rfl⟩

theorem insState_sync {c : Coll} {l : Loaded} {o : Obj} {ix' : ObjIndex} (ha : l.settings.async = none)
    (hd : c.disk.dir = true) :
    (insState c l o ix' true).disk =
      (c.disk.apply (.writeObj o)).apply (.writeSchema ({ l with index := ix' } : Loaded).img) ∧
    (insState c l o ix' true).log = c.log ++ [.writeObj o, .writeSchema ({ l with index := ix' } : Loaded).img] := by
  unfold insState
  -- `mkdir` on an existing directory does nothing: by `hd` here, by `rfl` (`fs_writeObj_dir`) inside the commit
  simp only [ha, Option.isSome_none, Bool.false_eq_true, if_false, Bool.not_false, Bool.true_and, if_true,
    fs_mkdir_of_dir hd]
  split <;> exact ⟨(commit_proj _ rfl).1, (commit_proj _ rfl).2.1.trans (List.append_assoc ..)⟩

theorem delState_sync {c : Coll} {l : Loaded} {u : Nat} (hd : c.disk.dir = true) :
    (delState c l u).disk = c.disk.applyAll (delOps c l u) ∧ (delState c l u).log = c.log ++ delOps c l u ∧
    (delState c l u).live = c.live := by
  obtain ⟨c2, he, h1, h2, h3⟩ := delState_eq c l u
  unfold delOps
  rw [he, ← h1, ← h2, ← h3]
  rw [← h1] at hd
  split
  · have p := commit_proj { l with index := l.index.deleteByUUID u } ((fs_rmObj_dir c2 u).trans hd)
    exact ⟨p.1, p.2.1.trans (List.append_assoc ..), p.2.2⟩
  · exact commit_proj _ hd

structure SyncStep (c c' : Coll) (l' : Loaded) (ops : List FsOp) : Prop where
  inv : Inv' c' l'
  synced : Synced c' l'
  log : c'.log = c.log ++ ops
  disk : c'.disk = c.disk.applyAll ops
  live : c'.live = c.live

/-- `hd`: the directory exists for any handle that has been created or reopened -/
theorem insert_sync_spec {E : Env} {c : Coll} {l : Loaded} (h : Inv' c l) (hd : c.disk.dir = true)
    (ha : l.settings.async = none) (o : Obj) (fresh : Nat) (ht : (storedObj E l o fresh).Typed l.index)
    (hr : (c.insert E o fresh).2 = .ok ()) :
    ∃ ix', l.index.insertOrUpdate (storedObj E l o fresh) = .ok ix' ∧
      SyncStep c (c.insert E o fresh).1 { l with index := ix' }
        [.writeObj (storedObj E l o fresh), .writeSchema ({ l with index := ix' } : Loaded).img] := by
  obtain ⟨ix', hix, he, hI, _⟩ := insert_accepted_eq h o fresh ht hr
  obtain ⟨p1, p2⟩ := insState_sync (c := c) (o := storedObj E l o fresh) (ix' := ix') ha hd
  rw [he]
  exact ⟨_, hix, { inv := hI, synced := ⟨congrArg Disk.schema p1, congrArg Disk.dir p1, hI.syncNoPend ha⟩,
                   log := p2, disk := p1, live := insState_live .. }⟩

theorem insert_rejected_synced {E : Env} {c : Coll} {l : Loaded} (h : Inv' c l) (hs : Synced c l)
    (o : Obj) (fresh : Nat) (ht : (assignNew (E.canon l.descs (E.transform o)) fresh).Typed l.index) (e : Err)
    (hr : (c.insert E o fresh).2 = .err e) :
    Inv' (c.insert E o fresh).1 l ∧ Synced (c.insert E o fresh).1 l := by
  rw [insert_rejected_frame h.toInv o fresh ht e hr]
  exact ⟨h, hs⟩

theorem delete_sync_spec {c : Coll} {l : Loaded} (h : Inv' c l) (hd : c.disk.dir = true) (hp : c.pending = [])
    (u : Nat) :
    (c.delete u).2 = .ok () ∧
    SyncStep c (c.delete u).1 { l with index := l.index.deleteByUUID u } (delOps c l u) := by
  obtain ⟨p1, p2, p3⟩ := delState_sync (c := c) (l := l) (u := u) hd
  rw [delete_eq h.toInv u]
  refine ⟨rfl, { inv := (delState_inv' h u).1, synced := ⟨commit_schema _ _, commit_dir _ _, ?_⟩,
                 log := p2, disk := p1, live := p3 }⟩
  show (delState c l u).pending = []
  rw [delState_pending, hp]
  split <;> rfl

theorem delete_log {c : Coll} {l : Loaded} (h : Inv' c l) (hs : Synced c l) (u : Nat) :
    (c.delete u).1.log =
      c.log ++ (if c.disk.files.has u
                then [.rmObj u, .writeSchema ({ l with index := l.index.deleteByUUID u } : Loaded).img]
                else [.writeSchema ({ l with index := l.index.deleteByUUID u } : Loaded).img]) ∧
    (c.delete u).1.disk = c.disk.applyAll (delOps c l u) :=
  let ⟨_, s⟩ := delete_sync_spec h hs.dir hs.pending u
  ⟨s.log, s.disk⟩

/-! ### C04: a new handle on the same directory -/

theorem control_load_ok {c : Coll} {l : Loaded} (h : Inv' c l) (hp : c.pending = []) (hk : ShapeOk c l) :
    controlLoaded c.live c.disk l.img.load = .ok () :=
  control_ok_of (l := l.img.load) hk (reload_wf h.wf) (h.dom_files hp)

/-- The invariant is that of the state AFTER the first access of the new handle: `c.reopen` itself has
    `mem = none` and satisfies `Inv' _ l'` for no `l'`; a read, write or search on `c.reopen` gets there
    because it opens with `match c.schema with` (`search_eq`, `get_of_schema`).
    Trap: `l.img.load` is `l` with `next` recomputed, `flusher := false`, `slept := 0`, so
    `startFlusher l.img.load ≠ l` in general. -/
theorem reopen_load {c : Coll} {l : Loaded} (h : Inv' c l) (hsch : c.disk.schema = some l.img) (hp : c.pending = [])
    (hk : ShapeOk c l) :
    c.reopen.schema =
      ({ c.reopen with mem := some (startFlusher l.img.load) }, .ok (startFlusher l.img.load)) ∧
    Inv' { c.reopen with mem := some (startFlusher l.img.load) } (startFlusher l.img.load) ∧
    ({ c.reopen with mem := some (startFlusher l.img.load) } : Coll).view = c.view := by
  have hv : ({ c.reopen with mem := some (startFlusher l.img.load) } : Coll).view = c.view :=
    view_congr (c := c) hp.symm rfl
  have hix : (startFlusher l.img.load).index = l.index.reload := startFlusher_index _
  refine ⟨schema_load_ok (c := c.reopen) rfl hsch (control_load_ok (c := c) h hp hk),
    inv_fresh rfl ?_ ?_ h.keyedF rfl rfl (startFlusher_flusher (startFlusher_idem _)), hv⟩
  · rw [hix, hv]
    exact h.indexes.reload
  · rw [hix, hv]
    exact h.typed

theorem reopen_loaded_sync {c : Coll} {l : Loaded} (h : Inv' c l) (hs : Synced c l) (hk : ShapeOk c l)
    (ha : l.settings.async = none) :
    (c.reopen).schema =
      ({ c.reopen with mem := some { descs := l.descs, settings := l.settings, index := l.index.reload } },
        .ok { descs := l.descs, settings := l.settings, index := l.index.reload }) := by
  have := (reopen_load h hs.schema hs.pending hk).1
  rwa [startFlusher_sync (l := l.img.load) ha] at this

theorem close_synced {c : Coll} {l : Loaded} (hm : c.mem = some l) :
    Synced (c.close).1 l ∧ (c.close).1.live = c.live ∧ (c.close).2 = .ok () := by
  rw [close_eq hm]
  exact ⟨⟨commit_schema _ _, commit_dir _ _, commit_pending _ _⟩, (commit_live _ _).trans (flushAll_live c), rfl⟩

open AsyncCounter in
/-- `Close` keeps what the collection denotes only if the pending store holds at most one entry per
    uuid: the state of `flushAll_view_counterexample` -/
theorem close_view_counterexample : ∃ (c : Coll) (l : Loaded), Inv' c l ∧ (c.close).1.view ≠ c.view := by
  refine ⟨c1, l1, inv1, fun h => flushAll_view_ne ?_⟩
  rw [← h, close_eq inv1.mem, view_commit]

/-! ### C11: `Repair` -/

theorem repairAdd_cons (c : Coll) (l : Loaded) (u : Nat) (us : List Nat) :
    Coll.repairAdd c l (u :: us) =
      if l.index.uuids.contains u then Coll.repairAdd c l us else
      match c.get u with
      | (c, .ok o) =>
        match l.index.insertOrUpdate o with
        | .ok ix => Coll.repairAdd c { l with index := ix } us
        | .err e => (c, l, .err e)
        | .panic => (c, l, .panic)
      | (c, .err e) => (c, l, .err e)
      | (c, .panic) => (c, l, .panic) := rfl

theorem repairAdd_sameDir : ∀ (us : List Nat) (c : Coll) (l : Loaded), SameDir c (Coll.repairAdd c l us).1
  | [], c, _ => SameDir.refl c
  | u :: us, c, l => by
    have hg := get_sameDir c u
    rw [repairAdd_cons]
    split
    · exact repairAdd_sameDir us c l
    · -- every branch answers the state `c1` of `get`, or goes on from it
      generalize c.get u = p at hg ⊢
      obtain ⟨c1, r⟩ := p
      cases r with
      | ok o =>
        dsimp only
        split
        · exact hg.trans (repairAdd_sameDir us _ _)
        · exact hg
        · exact hg
      | err e => exact hg
      | panic => exact hg

/-- the two loops of `Repair`, given the (possibly rebuilt) schema to repair -/
def repairTail (c : Coll) (l : Loaded) : Coll × Res Unit :=
  match Coll.repairAdd c l c.disk.files.keys with
  | (c, l, .ok ()) => (c.setMem { l with index := repairDrop c.disk l.index l.index.uuids }, .ok ())
  | (c, l, .err e) => (c.setMem l, .err e)
  | (c, _, .panic) => (c, .panic)

theorem repairTail_sameDir (c : Coll) (l : Loaded) : SameDir c (repairTail c l).1 := by
  have h := repairAdd_sameDir c.disk.files.keys c l
  unfold repairTail
  -- every branch answers the state `c1` of the first loop, at most with `mem` replaced, which `SameDir` does not read
  generalize Coll.repairAdd c l c.disk.files.keys = p at h ⊢
  obtain ⟨c1, l1, r⟩ := p
  cases r with
  | ok _ => exact h.setMem _
  | err e => exact h.setMem _
  | panic => exact h

/-- the index the loops of `Repair` start from -/
def repairStart (l : Loaded) : ObjIndex :=
  if l.index.control then l.index else { (ObjIndex.new l.descs) with next := l.index.next }

theorem repair_eq_tail {c : Coll} {l : Loaded} (h : (c.schema).1.mem = some l) :
    c.repair = repairTail (c.schema).1 { l with index := repairStart l } := by
  have hl : { l with index := repairStart l } =
      if l.index.control then l else { l with index := { (ObjIndex.new l.descs) with next := l.index.next } } := by
    unfold repairStart
    split <;> rfl
  -- the schema access answered `ok` or `corrupted` (`hr`): the first arm of `Coll.repair`, which reads `mem` again
  have hr := (schema_mem_some h).2
  unfold Coll.repair
  rcases hsc : c.schema with ⟨c1, r⟩
  rw [hsc] at h hr
  dsimp only at h
  rw [hl]
  rcases hr with rfl | rfl
  · simp only [h]
    rfl
  · simp only [h]
    rfl

theorem repair_sameDir (c : Coll) : SameDir c (c.repair).1 := by
  have hs := schema_sameDir c
  rcases schema_outcome c with ⟨l, _, e⟩ | ⟨l, _, _, e⟩ | ⟨_, e | e⟩
  · rw [repair_eq_tail (l := l) (by rw [e]; rfl)]
    exact hs.trans (repairTail_sameDir _ _)
  · rw [repair_eq_tail (l := l) (by rw [e]; rfl)]
    exact hs.trans (repairTail_sameDir _ _)
  -- no schema, or another struct: `Repair` returns the error of the schema access
  all_goals
    unfold Coll.repair
    rw [e]
    exact SameDir.refl c

theorem repair_no_fs (c : Coll) : (c.repair).1.disk = c.disk ∧ (c.repair).1.log = c.log :=
  ⟨(repair_sameDir c).disk, (repair_sameDir c).log⟩

/-! #### convergence of `Repair` -/

/-- what a crash between the file write and the commit of a *new* object, or between the file removal
    and the commit of a delete, leaves behind (the store being the content before the call); NOT what an
    interrupted update of an indexed value leaves (`crash_update_not_agree`). -/
def Agree (ix : ObjIndex) (files : OMap) : Prop :=
  ∃ objs, Reflects ix objs ∧ ∀ u, u ∈ ix.uuids → ∀ o, files.get? u = some o → objs u = some o

theorem Agree.of_reflects {ix : ObjIndex} {files : OMap} (h : Reflects ix (fun u => files.get? u)) : Agree ix files :=
  ⟨_, h, fun _ _ _ ho => ho⟩

theorem Agree.reflects {ix : ObjIndex} {files : OMap} (h : Agree ix files)
    (hall : ∀ u, u ∈ ix.uuids → files.has u = true) : Reflects ix (fun u => files.get? u) := by
  obtain ⟨objs, h1, h2⟩ := h
  apply h1.congr
  intro u hu
  obtain ⟨o, ho⟩ := (OMap.has_eq_true_iff _ _).mp (hall u hu)
  rw [h2 u hu o ho, ho]

/-- what both loops of `Repair` keep true of the index, over the files `F` -/
structure RepInv (F : OMap) (n : Nat) (ix : ObjIndex) : Prop where
  wf : ix.WF
  agree : Agree ix F
  typed : ∀ u o, F.get? u = some o → o.Typed ix
  next : n ≤ ix.next

theorem RepInv.add {F : OMap} {n u : Nat} {ix ix' : ObjIndex} {o : Obj} (hi : RepInv F n ix)
    (ho : F.get? u = some o) (hou : o.uuid = u) (hu : u ∉ ix.uuids) (hr : ix.insertOrUpdate o = .ok ix') :
    RepInv F n ix' ∧ ix'.uuids = ix.uuids ++ [u] := by
  have huu : ix'.uuids = ix.uuids ++ [u] := by rw [insertOrUpdate_uuids hr, hou, if_neg hu]
  obtain ⟨objs, g1, g2⟩ := hi.agree
  refine ⟨{
    wf := insertOrUpdate_wf hi.wf (hi.typed u o ho) hr
    agree := ⟨_, insertOrUpdate_reflects hi.wf (hi.typed u o ho) g1 hr, fun w hw o' ho' => ?_⟩
    typed := fun w o' ho' => insertOrUpdate_typed hr (hi.typed w o' ho')
    next := Nat.le_trans hi.next (insertOrUpdate_next_mono hr) }, huu⟩
  -- the store the new index reflects is `objs` with `o` under `u`: on the indexed uuids it is still the files
  rw [hou]
  by_cases hwu : w = u
  · rw [if_pos hwu, ← ho', hwu, ho]
  · rw [if_neg hwu]
    rw [huu, List.mem_append, List.mem_singleton] at hw
    exact g2 w (hw.resolve_right hwu) o' ho'

theorem RepInv.drop {F : OMap} {n u : Nat} {ix : ObjIndex} (hi : RepInv F n ix) (hu : F.has u = false) :
    RepInv F n (ix.deleteByUUID u) := by
  obtain ⟨objs, g1, g2⟩ := hi.agree
  refine {
    wf := deleteByUUID_wf hi.wf u
    agree := ⟨_, deleteByUUID_reflects hi.wf g1 u, fun w hw o ho => ?_⟩
    typed := fun w o ho => deleteByUUID_typed _ u (hi.typed w o ho)
    next := Nat.le_trans hi.next (Nat.le_of_eq (deleteByUUID_next _ _).symm) }
  -- the store the new index reflects is `objs` without `u`, and `u` has no file
  rw [deleteByUUID_uuids hi.wf, List.mem_filter] at hw
  have hwu : w ≠ u := by
    intro e
    rw [e, (OMap.has_eq_false_iff _ _).mp hu] at ho
    cases ho
  rw [if_neg hwu]
  exact g2 w hw.1 o ho

theorem repairDrop_spec {d : Disk} {n : Nat} (us : List Nat) : ∀ {ix : ObjIndex}, RepInv d.files n ix →
    RepInv d.files n (repairDrop d ix us) ∧
    ∀ w, w ∈ (repairDrop d ix us).uuids ↔ w ∈ ix.uuids ∧ (w ∈ us → d.files.has w = true) := by
  induction us with
  | nil => exact fun h => ⟨h, fun w => ⟨fun hw => ⟨hw, fun hn => nomatch hn⟩, fun hw => hw.1⟩⟩
  | cons u us ih =>
    intro ix h
    have he : repairDrop d ix (u :: us) =
        if d.files.has u then repairDrop d ix us else repairDrop d (ix.deleteByUUID u) us := rfl
    rw [he]
    cases hh : d.files.has u with
    | true =>
      obtain ⟨i1, i2⟩ := ih h
      refine ⟨i1, fun w => ?_⟩
      rw [if_pos rfl, i2 w, List.mem_cons]
      exact and_congr_right fun _ => ⟨fun g e => e.elim (fun e => e ▸ hh) g, fun g e => g (Or.inr e)⟩
    | false =>
      obtain ⟨i1, i2⟩ := ih (h.drop hh)
      refine ⟨i1, fun w => ?_⟩
      rw [if_neg Bool.false_ne_true, i2 w, deleteByUUID_uuids h.wf, List.mem_filter, List.mem_cons, bne_iff_ne, and_assoc]
      -- `u` has no file: "`w = u →` its file exists" says `w ≠ u`
      refine and_congr_right fun _ => ⟨fun g e => e.elim (fun e => absurd e g.1) g.2, fun g => ⟨fun e => ?_, fun e => g (Or.inr e)⟩⟩
      have := g (Or.inl e)
      rw [e, hh] at this
      cases this

/-- what the loops of `Repair` need from the handle -/
structure RepairCtx (c : Coll) (lm : Loaded) : Prop where
  mem     : c.mem = some lm
  flushed : startFlusher lm = lm
  cacheOk : ∀ u o, c.cache.get? u = some o → c.disk.files.get? u = some o
  keyedF  : c.disk.files.Keyed

theorem RepairCtx.fill {c : Coll} {lm : Loaded} (ctx : RepairCtx c lm) {u : Nat} {o : Obj}
    (hf : c.disk.files.get? u = some o) : RepairCtx { c with cache := c.cache.put o } lm := by
  refine ⟨ctx.mem, ctx.flushed, fun w o' hg => ?_, ctx.keyedF⟩
  change (c.cache.put o).get? w = some o' at hg
  rw [OMap.get?_put, ctx.keyedF.get? hf] at hg
  split at hg
  · next hw =>
    rw [hw, hf]
    exact hg
  · exact ctx.cacheOk w o' hg

theorem get_ctx {c : Coll} {lm : Loaded} (ctx : RepairCtx c lm) {u : Nat} {o : Obj}
    (hf : c.disk.files.get? u = some o) :
    ∃ c', c.get u = (c', .ok o) ∧ RepairCtx c' lm ∧ c'.disk = c.disk := by
  rw [get_of_schema (schema_of_mem ctx.mem ctx.flushed), hf]
  cases lm.settings.mustCache with
  | false => exact ⟨c, rfl, ctx, rfl⟩
  | true =>
    cases hc : c.cache.get? u with
    | some o' =>
      cases (ctx.cacheOk u o' hc).symm.trans hf
      exact ⟨c, rfl, ctx, rfl⟩
    | none => exact ⟨_, rfl, ctx.fill hf, rfl⟩

theorem repairAdd_spec {lm : Loaded} {F : OMap} {n : Nat} (us : List Nat) (hus : ∀ u, u ∈ us → F.has u = true) :
    ∀ (c : Coll) (l : Loaded), RepairCtx c lm → c.disk.files = F → RepInv F n l.index →
    ∃ c' ix' r, Coll.repairAdd c l us = (c', { l with index := ix' }, r) ∧ RepInv F n ix' ∧
      (r = .err .unique ∨ r = .ok () ∧ ∀ w, w ∈ l.index.uuids ∨ w ∈ us → w ∈ ix'.uuids) := by
  induction us with
  | nil => exact fun c l _ _ hi => ⟨c, l.index, _, rfl, hi, Or.inr ⟨rfl, fun w hw => hw.resolve_right fun h => nomatch h⟩⟩
  | cons u us ih =>
    intro c l ctx hF hi
    have ih := ih fun w hw => hus w (List.mem_cons_of_mem _ hw)
    rw [repairAdd_cons]
    -- `u` is indexed already: skipped.  Otherwise its file is read (`get_ctx`: the cache may grow) and
    -- inserted: accepted (`RepInv.add`, the loop goes on) or refused, which can only be `unique`.
    by_cases hin : u ∈ l.index.uuids
    · rw [if_pos (List.contains_iff_mem.mpr hin)]
      obtain ⟨c', ix', r, h1, h2, h3⟩ := ih c l ctx hF hi
      exact ⟨c', ix', r, h1, h2, h3.imp_right (And.imp_right fun h3 w hw => h3 w (hw.elim Or.inl fun hw =>
        (List.mem_cons.mp hw).elim (fun e => Or.inl (e ▸ hin)) Or.inr))⟩
    · obtain ⟨o, ho⟩ := (OMap.has_eq_true_iff _ _).mp (hus u List.mem_cons_self)
      obtain ⟨c1, hg, ctx1, hd1⟩ := get_ctx ctx (hF ▸ ho)
      rw [if_neg (mt List.contains_iff_mem.mp hin), hg]
      dsimp only
      rcases insertOrUpdate_total (hi.typed u o ho) with ⟨ix1, hr⟩ | hr <;> rw [hr]
      · obtain ⟨hi1, huu⟩ := hi.add ho (ctx.keyedF.get? (hF ▸ ho)) hin hr
        obtain ⟨c', ix', r, h1, h2, h3⟩ := ih c1 { l with index := ix1 } ctx1 (hd1 ▸ hF) hi1
        refine ⟨c', ix', r, h1, h2, h3.imp_right (And.imp_right fun h3 w hw => h3 w ?_)⟩
        show w ∈ ix1.uuids ∨ w ∈ us
        rw [huu, List.mem_append, List.mem_singleton, or_assoc, ← List.mem_cons]
        exact hw
      · exact ⟨c1, l.index, _, rfl, hi, Or.inl rfl⟩

theorem repairTail_spec {c : Coll} {lm l : Loaded} {n : Nat} (ctx : RepairCtx c lm) (hi : RepInv c.disk.files n l.index) :
    ((repairTail c l).2 = .ok () ∧ ∃ ix', (repairTail c l).1.mem = some { l with index := ix' } ∧ ix'.WF ∧
        (∀ u, u ∈ ix'.uuids ↔ c.disk.files.has u = true) ∧
        Reflects ix' (fun u => c.disk.files.get? u) ∧ n ≤ ix'.next) ∨
    (repairTail c l).2 = .err .unique := by
  have hsd := (repairAdd_sameDir c.disk.files.keys c l).disk
  unfold repairTail
  obtain ⟨c', ix1, r, h1, h2, h3⟩ :=
    repairAdd_spec c.disk.files.keys (fun u hu => (OMap.mem_keys_iff_has _ _).mp hu) c l ctx rfl hi
  rw [h1] at hsd ⊢
  rcases h3 with rfl | ⟨rfl, h3⟩
  · exact Or.inr rfl
  · dsimp only at hsd ⊢
    rw [hsd]
    -- the first loop has indexed every file (`h3`), the second keeps of the indexed uuids those with a file (`d2`)
    obtain ⟨d1, d2⟩ := repairDrop_spec ix1.uuids h2
    have huu : ∀ u, u ∈ (repairDrop c.disk ix1 ix1.uuids).uuids ↔ c.disk.files.has u = true := fun u =>
      (d2 u).trans ⟨fun h => h.2 h.1, fun h => ⟨h3 u (Or.inr ((OMap.mem_keys_iff_has _ _).mpr h)), fun _ => h⟩⟩
    exact Or.inl ⟨rfl, _, rfl, d1.wf, huu, d1.agree.reflects fun u hu => (huu u).mp hu, d1.next⟩

/-- `hi` holds in two cases: a well-formed index that agrees with the files, `Agree`
    (`Props.C11_repair_converges`), and an index that fails its own check (`repair_rebuild`). -/
theorem repair_converges {c : Coll} {l : Loaded} (hmem : (c.schema).1.mem = some l)
    (hi : RepInv c.disk.files l.index.next (repairStart l)) (hkeyed : c.disk.files.Keyed)
    (hcache : ∀ u o, c.cache.get? u = some o → c.disk.files.get? u = some o) :
    ((c.repair).2 = .ok () ∧ ∃ l', (c.repair).1.mem = some l' ∧ l'.index.WF ∧
        (∀ u, u ∈ l'.index.uuids ↔ c.disk.files.has u = true) ∧
        Reflects l'.index (fun u => c.disk.files.get? u) ∧
        l'.descs = l.descs ∧ l'.settings = l.settings ∧ l.index.next ≤ l'.index.next ∧
        (ShapeOk c l → (c.repair).1.control = .ok ())) ∨
    (c.repair).2 = .err .unique := by
  have hs := schema_sameDir c
  have ctx : RepairCtx (c.schema).1 l :=
    ⟨hmem, (schema_mem_some hmem).1, by rw [schema_cache c, hs.disk]; exact hcache, by rw [hs.disk]; exact hkeyed⟩
  have hr := repair_sameDir c
  rw [repair_eq_tail hmem] at hr ⊢
  rcases repairTail_spec (l := { l with index := repairStart l }) ctx (hs.disk.symm ▸ hi) with
    ⟨h1, ix', h2, h3, h4, h5, h6⟩ | h
  · rw [hs.disk] at h4 h5
    refine Or.inl ⟨h1, _, h2, h3, h4, h5, rfl, rfl, h6, fun hk => ?_⟩
    rw [Coll.control_of_mem h2, hr.disk, hr.live]
    exact control_ok_of hk h3 fun u => by rw [h4 u, OMap.has_iff_get?_isSome]
  · exact Or.inr h

theorem repair_rebuild {c : Coll} {l : Loaded}
    (hmem : (c.schema).1.mem = some l) (hctl : l.index.control = false)
    (htyped : ∀ u o, c.disk.files.get? u = some o → o.Typed (ObjIndex.new l.descs))
    (hkeyed : c.disk.files.Keyed)
    (hcache : ∀ u o, c.cache.get? u = some o → c.disk.files.get? u = some o) :
    ((c.repair).2 = .ok () ∧ ∃ l', (c.repair).1.mem = some l' ∧ l'.index.WF ∧
        (∀ u, u ∈ l'.index.uuids ↔ c.disk.files.has u = true) ∧
        Reflects l'.index (fun u => c.disk.files.get? u) ∧
        l'.descs = l.descs ∧ l'.settings = l.settings ∧ l.index.next ≤ l'.index.next ∧
        (ShapeOk c l → (c.repair).1.control = .ok ())) ∨
    (c.repair).2 = .err .unique := by
  refine repair_converges hmem ?_ hkeyed hcache
  rw [repairStart, hctl]
  exact {
    wf := ⟨List.nodup_nil, List.nodup_nil, fun p hp => absurd hp List.not_mem_nil,
      fun fi hfi => ((new_wf l.descs).fields fi hfi).congr rfl⟩
    agree := ⟨fun _ => none, new_reflects l.descs, fun u hu => absurd hu List.not_mem_nil⟩
    typed := htyped
    next := Nat.le_refl _ }

/-! ### C05: crash between two directory mutations (synchronous mode)

  Process-crash model: a call appends the list `delta` of its directory mutations to the log; a crash
  after `j` of them leaves the directory `c.disk.applyAll (delta.take j)`.  What the next `Open`
  sees is classified by the two predicates below. -/

/-- the next first access reports `corrupted` (and `Repair` is called for) -/
def Detected (live : List (String × String)) (d : Disk) : Prop :=
  ∃ img, d.schema = some img ∧
    controlLoaded live d { descs := img.descs, settings := img.settings, index := img.index.reload } = .err .corrupted

/-- the next first access succeeds and the loaded index reflects the files -/
def Consistent (live : List (String × String)) (d : Disk) : Prop :=
  ∃ img, d.schema = some img ∧
    controlLoaded live d { descs := img.descs, settings := img.settings, index := img.index.reload } = .ok () ∧
    Reflects img.index.reload (fun u => d.files.get? u)

theorem not_detected_of_ok {live : List (String × String)} {d : Disk} {img : SchemaImg} (hd : d.schema = some img)
    (hc : controlLoaded live d img.load = .ok ()) : ¬ Detected live d := by
  rintro ⟨_, g1, g2⟩
  cases hd.symm.trans g1
  cases hc.symm.trans g2

theorem not_detected_of_consistent {live : List (String × String)} {d : Disk} (h : Consistent live d) :
    ¬ Detected live d :=
  let ⟨_, h1, h2, _⟩ := h
  not_detected_of_ok h1 h2

theorem silent_of {live : List (String × String)} {d : Disk} {img : SchemaImg} (hd : d.schema = some img)
    (hc : controlLoaded live d img.load = .ok ()) (hn : ¬ Reflects img.index.reload (fun u => d.files.get? u)) :
    ¬ Detected live d ∧ ¬ Consistent live d := by
  refine ⟨not_detected_of_ok hd hc, ?_⟩
  rintro ⟨_, g1, _, g3⟩
  cases hd.symm.trans g1
  exact hn g3

theorem detected_of {live : List (String × String)} {d : Disk} {img : SchemaImg} (hd : d.schema = some img)
    (hk : descsCompatFields img.descs live = true)
    (h : (∃ u, d.files.has u = true ∧ u ∉ img.index.uuids) ∨ (∃ u, u ∈ img.index.uuids ∧ d.files.has u = false)) :
    Detected live d := by
  refine ⟨img, hd, (controlLoaded_corrupted_iff _ _ _).mpr ⟨hk, fun ⟨_, hkeys, hall⟩ => ?_⟩⟩
  rcases h with ⟨u, hu, hn⟩ | ⟨u, hu, hn⟩
  · exact hn (hkeys u ((OMap.mem_keys_iff_has _ _).mpr hu))
  · rw [hall u hu] at hn
    cases hn

theorem consistent_of_inv {c : Coll} {l : Loaded} (h : Inv' c l) (hs : Synced c l) (hk : ShapeOk c l) :
    Consistent c.live c.disk :=
  ⟨l.img, hs.schema, control_load_ok h hs.pending hk, reload_reflects (h.refl.congr fun u _ => view_nopend hs.pending u)⟩

theorem SyncStep.consistent {c c' : Coll} {l l' : Loaded} {ops : List FsOp} (s : SyncStep c c' l' ops)
    (hk : ShapeOk c l) (hd : l'.descs = l.descs) : Consistent c.live (c.disk.applyAll ops) := by
  rw [← s.disk, ← s.live]
  exact consistent_of_inv s.inv s.synced (hk.congr hd s.live)

theorem crash_two {live : List (String × String)} {d : Disk} {a b : FsOp} (h0 : Consistent live d)
    (h1 : Detected live (d.apply a) ∨ Consistent live (d.apply a)) (h2 : Consistent live (d.applyAll [a, b])) :
    ∀ j, Detected live (d.applyAll ([a, b].take j)) ∨ Consistent live (d.applyAll ([a, b].take j))
  | 0 => Or.inr h0
  | 1 => h1
  | j + 2 => by
    rw [List.take_of_length_le (Nat.le_add_left 2 j)]
    exact Or.inr h2

/-! The directory between the two mutations of a synchronous call. -/

theorem detected_new_file {c : Coll} {l : Loaded} (hs : Synced c l) (hk : ShapeOk c l) {o : Obj}
    (hnew : o.uuid ∉ l.index.uuids) : Detected c.live (c.disk.apply (.writeObj o)) := by
  refine detected_of (img := l.img) hs.schema hk (Or.inl ⟨_, ?_, hnew⟩)
  show (c.disk.files.put o).has _ = true
  rw [OMap.has_put, decide_eq_true rfl]
  rfl

theorem detected_removed_file {c : Coll} {l : Loaded} (hs : Synced c l) (hk : ShapeOk c l) {u : Nat}
    (hu : u ∈ l.index.uuids) : Detected c.live (c.disk.apply (.rmObj u)) := by
  refine detected_of (img := l.img) hs.schema hk (Or.inr ⟨u, hu, ?_⟩)
  show (c.disk.files.erase u).has u = false
  rw [OMap.has_erase, decide_eq_true rfl]
  rfl

theorem consistent_same_keys {c : Coll} {l : Loaded} (h : Inv' c l) (hs : Synced c l) (hk : ShapeOk c l) {o : Obj}
    (hupd : o.uuid ∈ l.index.uuids)
    (hsame : ∀ old, c.view o.uuid = some old → ∀ fi ∈ l.index.fields, o.field fi.pos = old.field fi.pos) :
    Consistent c.live (c.disk.apply (.writeObj o)) := by
  have hv : ∀ u, c.view u = c.disk.files.get? u := view_nopend hs.pending
  refine ⟨l.img, hs.schema, control_ok_of (l := l.img.load) hk (reload_wf h.wf) fun u => ?_, ?_⟩
  · show u ∈ l.index.uuids ↔ ((c.disk.files.put o).get? u).isSome = true
    rw [OMap.get?_put]
    by_cases hu : u = o.uuid
    · rw [if_pos hu, hu]
      exact ⟨fun _ => rfl, fun _ => hupd⟩
    · rw [if_neg hu]
      exact h.dom_files hs.pending u
  · -- the index reflects the old content, and the new file differs from it in no indexed field
    refine reload_reflects (h.refl.of_fields fun u _ x hx => ?_)
    show ∃ x', (c.disk.files.put o).get? u = some x' ∧ _
    rw [OMap.get?_put]
    by_cases hu : u = o.uuid
    · rw [if_pos hu]
      exact ⟨o, rfl, ((h.typed u x hx).2.trans hu).symm, hsame x (hu ▸ hx)⟩
    · rw [if_neg hu, ← hv]
      exact ⟨x, hx, rfl, fun _ _ => rfl⟩

theorem crash_delete_absent {c : Coll} {l : Loaded} (h : Inv' c l) (hs : Synced c l) (hk : ShapeOk c l) (u : Nat)
    (hu : u ∉ l.index.uuids) :
    ∃ delta, (c.delete u).1.log = c.log ++ delta ∧ delta.length = 1 ∧
      Consistent c.live (c.disk.applyAll (delta.take 0)) ∧ Consistent c.live (c.disk.applyAll (delta.take 1)) := by
  obtain ⟨_, s⟩ := delete_sync_spec h hs.dir hs.pending u
  rw [delOps_eq h hs.pending, if_neg hu] at s
  exact ⟨_, s.log, rfl, consistent_of_inv h hs hk, s.consistent hk rfl⟩

/-! #### the known finding: an interrupted update of an indexed value goes unnoticed

  One indexed `int` field `A`, one object (uuid 1) with `A = 1`, synchronous, uncached.  The update
  `A := 2` writes the file, then commits the schema.  A crash in between leaves the file with
  `A = 2` under a schema whose index still says `A = 1`: `Control` has nothing to object (same
  uuids on both sides, index internally consistent), yet a search `A = 1` would return the object. -/

namespace UpdCounter
open Counter (E0)

def dA : FieldDesc := { path := "A", type := "int", cast := some .i64, cons := { index := true } }
def fiA : FieldIdx := { name := "A", pos := 0, cast := .i64, cons := { index := true }, idx := [(.i64 1, 0)] }
def ix1 : ObjIndex := { next := 1, ids := [(0, 1)], fields := [fiA] }
def o1 : Obj := { uuid := 1, shape := "", vals := [.v (.i64 1)] }
def o2 : Obj := { uuid := 1, shape := "", vals := [.v (.i64 2)] }
def l0 : Loaded := { descs := [dA], settings := {}, index := ix1 }
def lE : Loaded := { descs := [dA], settings := {}, index := ObjIndex.new [dA] }
def cE : Coll := { live := [("A", "int")], disk := { dir := true, schema := some lE.img }, mem := some lE }
def c0 : Coll :=
  { live := [("A", "int")], disk := { dir := true, files := [(1, o1)], schema := some l0.img }, mem := some l0,
    log := [.writeObj o1, .writeSchema l0.img] }
/-- the directory after the file write of the update, before the commit -/
def d1 : Disk := { dir := true, files := [(1, o2)], schema := some l0.img }

theorem c0_eq : (cE.insert E0 o1 9).1 = c0 := rfl

/-- the state of the counterexample is reached by one insert into the fresh collection -/
theorem inv0 : Inv' c0 l0 := by
  have ht : (storedObj E0 lE o1 9).Typed lE.index := fun fi hfi => by
    cases List.mem_singleton.mp hfi
    exact ⟨.i64 1, rfl, rfl⟩
  obtain ⟨l', hi, _⟩ := insert_accepted' (inv_empty (c := cE) rfl rfl rfl rfl rfl fun h => nomatch h) o1 9 ht rfl
  rw [c0_eq] at hi
  cases (show some l0 = some l' from hi.mem)
  exact hi

theorem shape0 : ShapeOk c0 l0 := by
  unfold ShapeOk
  decide +kernel

theorem control1 : controlLoaded c0.live d1 l0.img.load = .ok () := by decide +kernel

/-- the stale entry `(1, oid 0)` of the index of `A` has no object with `A = 1` behind it -/
theorem not_reflects : ¬ Reflects l0.img.index.reload (fun u => d1.files.get? u) := by
  intro hrf
  obtain ⟨u, x, k1, k2, k3⟩ :=
    (hrf.mem_idx fiA (List.mem_singleton.mpr rfl) (.i64 1, 0)).mp (List.mem_singleton.mpr rfl)
  cases List.mem_singleton.mp k1
  have : some o2 = some x := k2
  cases this
  exact absurd k3 (by decide)

end UpdCounter

open UpdCounter in
theorem crash_update_counterexample :
    ∃ (E : Env) (c : Coll) (l : Loaded) (o : Obj) (fresh : Nat),
      Inv' c l ∧ Synced c l ∧ ShapeOk c l ∧ l.settings.async = none ∧ (storedObj E l o fresh).Typed l.index ∧
      (c.insert E o fresh).2 = .ok () ∧ (storedObj E l o fresh).uuid ∈ l.index.uuids ∧
      ∃ delta, (c.insert E o fresh).1.log = c.log ++ delta ∧
        ¬ Detected c.live (c.disk.applyAll (delta.take 1)) ∧
        ¬ Consistent c.live (c.disk.applyAll (delta.take 1)) := by
  have ht : (storedObj Counter.E0 l0 o2 9).Typed l0.index := fun fi hfi => by
    cases List.mem_singleton.mp hfi
    exact ⟨.i64 2, rfl, rfl⟩
  obtain ⟨ix', _, s⟩ := insert_sync_spec inv0 rfl rfl o2 9 ht rfl
  exact ⟨Counter.E0, c0, l0, o2, 9, inv0, ⟨rfl, rfl, rfl⟩, shape0, rfl, ht, rfl, by decide, _, s.log,
    silent_of (d := d1) rfl control1 not_reflects⟩

/-! #### the detected crash states are exactly what `Repair` is specified for (`repair_converges`) -/

theorem agree_after_insert_crash {c : Coll} {l : Loaded} (h : Inv' c l) (hp : c.pending = []) {o' : Obj}
    (hnew : o'.uuid ∉ l.index.uuids) : Agree l.index.reload (c.disk.apply (.writeObj o')).files := by
  refine ⟨c.view, reload_reflects h.refl, fun u hu x hx => ?_⟩
  change (c.disk.files.put o').get? u = some x at hx
  rw [OMap.get?_put, if_neg fun e : u = o'.uuid => hnew (e ▸ hu)] at hx
  rw [view_nopend hp]
  exact hx

theorem agree_after_delete_crash {c : Coll} {l : Loaded} (h : Inv' c l) (hp : c.pending = []) (u : Nat) :
    Agree l.index.reload (c.disk.apply (.rmObj u)).files := by
  refine ⟨c.view, reload_reflects h.refl, fun w _ x hx => ?_⟩
  change (c.disk.files.erase u).get? w = some x at hx
  rw [OMap.get?_erase] at hx
  by_cases hw : w = u
  · rw [if_pos hw] at hx
    cases hx
  · rw [if_neg hw] at hx
    rw [view_nopend hp]
    exact hx

open UpdCounter in
/-- the interrupted update of the known finding is outside `Repair`'s reach -/
theorem crash_update_not_agree : ¬ Agree l0.img.index.reload d1.files := fun ha =>
  not_reflects (ha.reflects fun u hu => by cases List.mem_singleton.mp hu; rfl)

end Sod
