import SodModel.Codec
import Std.Data.String.ToInt
/-!
  Facts about the decimal-literal reader of the schema codec (`Sod.Codec.decIsKey`), the part of the
  correspondence oracle that decides whether the number text in schema.json denotes the double whose
  order key the model holds (C04: index values survive reopen exactly), and about the comparison of
  schema.json with the model's image that is built on it.

  The doubles and the midpoints between them form one increasing sequence, `atC d n`,
  `upC d n = loC d (n+1)`, `atC d (n+1)`, of comparisons with the literal `d` (`upC_of_atC`, `succ_step`,
  `atC_succ`): so the rounding intervals of different doubles are disjoint, and a literal denotes at
  most one key.
-/
namespace Sod.Codec

theorem compare_mul_right {c : Nat} (hc : 0 < c) (a b : Nat) :
    compare (a * c) (b * c) = compare a b := by
  simp only [Nat.compare_eq_ite_lt, Nat.mul_lt_mul_right hc]

theorem compare_pow_shift {b : Nat} (hb : 0 < b) {u v p q : Nat} (h : u + q = p + v) (X Y : Nat) :
    compare (X * b ^ u) (Y * b ^ v) = compare (X * b ^ p) (Y * b ^ q) := by
  rw [← compare_mul_right (Nat.pow_pos hb (n := q)) (X * b ^ u),
    ← compare_mul_right (Nat.pow_pos hb (n := v)) (X * b ^ p),
    Nat.mul_assoc X, Nat.mul_assoc X, ← Nat.pow_add, ← Nat.pow_add, h, Nat.mul_right_comm Y]

theorem sub_add_eq_add_sub (p q : Nat) : p - q + q = p + (q - p) := by
  rw [Nat.sub_add_eq_max, Nat.add_comm, Nat.sub_add_eq_max, Nat.max_comm]

/-- `cmpScaled A a m x` compares `A·2^a` with `m·10^x`, however the two exponents are split into a
    positive and a negative part -/
theorem cmpScaled_split {a x : Int} {p q r s : Nat} (ha : a = p - q) (hx : x = r - s) (A m : Nat) :
    cmpScaled A a m x = compare (A * 2 ^ p * 10 ^ s) (m * 10 ^ r * 2 ^ q) := by
  subst ha hx
  rw [cmpScaled, Int.neg_sub, Int.neg_sub, Int.toNat_sub, Int.toNat_sub, Int.toNat_sub, Int.toNat_sub,
    Nat.mul_right_comm m, compare_pow_shift (by decide : 0 < 10) (sub_add_eq_add_sub s r),
    Nat.mul_right_comm A, Nat.mul_right_comm m, compare_pow_shift (by decide : 0 < 2) (sub_add_eq_add_sub p q),
    Nat.mul_right_comm A]

theorem cmpScaled_int_cmp (A m t j : Nat) :
    cmpScaled A ((t : Int) - (j : Int)) (m * 2 ^ t) 0 = compare A (m * 2 ^ j) := by
  rw [cmpScaled_split (r := 0) (s := 0) rfl (by decide), Nat.pow_zero, Nat.mul_one, Nat.mul_one,
    Nat.mul_right_comm m]
  exact compare_mul_right (Nat.pow_pos (by decide)) _ _

theorem cmpScaled_double (A : Nat) (a : Int) (m : Nat) (x : Int) :
    cmpScaled (2 * A) (a - 1) m x = cmpScaled A a m x := by
  -- one more factor 2 on both sides of the comparison
  rw [cmpScaled_split (p := a.toNat) (q := (-a).toNat + 1)
      (by rw [Int.natCast_succ, ← Int.sub_sub, Int.toNat_sub_toNat_neg]) (Int.toNat_sub_toNat_neg x).symm,
    cmpScaled, Nat.pow_succ, ← Nat.mul_assoc, Nat.mul_comm 2 A, Nat.mul_right_comm A 2,
    Nat.mul_right_comm (A * _) 2]
  exact compare_mul_right (by decide) _ _

/-- strict monotonicity in the left side, in the one form that serves upwards and downwards:
    between two left sides there is room for at most one equality -/
theorem cmpScaled_lt_or_gt {A A' : Nat} (h : A < A') (a : Int) (m : Nat) (x : Int) :
    cmpScaled A a m x = .lt ∨ cmpScaled A' a m x = .gt := by
  have := Nat.mul_lt_mul_of_pos_right
    (Nat.mul_lt_mul_of_pos_right h (Nat.pow_pos (by decide : 0 < 2) (n := a.toNat)))
    (Nat.pow_pos (by decide : 0 < 10) (n := (-x).toNat))
  simp only [cmpScaled, Nat.compare_eq_lt, Nat.compare_eq_gt]
  exact (Nat.lt_or_ge _ _).imp_right fun h' => Nat.lt_of_le_of_lt h' this

theorem cmpScaled_gt_mono {A A' : Nat} (a : Int) (m : Nat) (x : Int) (h : A ≤ A')
    (hg : cmpScaled A a m x = .gt) : cmpScaled A' a m x = .gt := by
  rcases Nat.eq_or_lt_of_le h with rfl | h
  · exact hg
  · exact (cmpScaled_lt_or_gt h a m x).resolve_left (fun e => nomatch hg.symm.trans e)

theorem cmpScaled_lt_mono {A A' : Nat} (a : Int) (m : Nat) (x : Int) (h : A' ≤ A)
    (hg : cmpScaled A a m x = .lt) : cmpScaled A' a m x = .lt := by
  rcases Nat.eq_or_lt_of_le h with rfl | h
  · exact hg
  · exact (cmpScaled_lt_or_gt h a m x).resolve_right (fun e => nomatch hg.symm.trans e)

theorem cmpScaled_zero_right (A : Nat) (a : Int) (x : Int) (hA : 0 < A) : cmpScaled A a 0 x = .gt := by
  rw [cmpScaled, Nat.zero_mul, Nat.zero_mul, Nat.compare_eq_gt]
  exact Nat.mul_pos (Nat.mul_pos hA (Nat.pow_pos (by decide))) (Nat.pow_pos (by decide))

theorem cmpScaled_exact_int (M t : Nat) : cmpScaled (2 * M) ((t : Int) - 1) (M * 2 ^ t) 0 = .eq := by
  rw [show (t : Int) - 1 = t - (1 : Nat) from rfl, cmpScaled_int_cmp, Nat.pow_one, Nat.mul_comm,
    Nat.compare_eq_eq]

/-- `M·5^k·10^(-k) = M·2^(-k)` -/
theorem cmpScaled_exact_frac (M k : Nat) :
    cmpScaled (2 * M) (-(k : Int) - 1) (M * 5 ^ k) (-(k : Int)) = .eq := by
  rw [cmpScaled_double, cmpScaled_split (p := 0) (q := k) (r := 0) (s := k) (Int.zero_sub _).symm
    (Int.zero_sub _).symm, Nat.compare_eq_eq, Nat.pow_zero, Nat.mul_one, Nat.mul_one, Nat.mul_assoc,
    ← Nat.mul_pow]

/-! The positive double with bit pattern `n` is `Mof n · 2 ^ Eof n` (IEEE 754 binary64: 52 fraction bits
  under an exponent field biased by 1023, hence by 1075 for the integer significand `2^52 + fraction`;
  field 0, the subnormals, has no hidden bit and the exponent `-1074`; field 2047 is Inf and NaN);
  `atC d n` compares it with the literal `d`, `upC d n` and `loC d n` compare the midpoints to its
  upper and lower neighbour. -/

def Mof (n : Nat) : Nat := if n / 2 ^ 52 = 0 then n % 2 ^ 52 else 2 ^ 52 + n % 2 ^ 52
def Eof (n : Nat) : Int := if n / 2 ^ 52 = 0 then -1074 else ((n / 2 ^ 52 : Nat) : Int) - 1075
def upC (d : Dec) (n : Nat) : Ordering := cmpScaled (2 * Mof n + 1) (Eof n - 1) d.mant d.exp
def loC (d : Dec) (n : Nat) : Ordering :=
  if n % 2 ^ 52 = 0 ∧ n / 2 ^ 52 > 1 then cmpScaled (4 * Mof n - 1) (Eof n - 2) d.mant d.exp
  else cmpScaled (2 * Mof n - 1) (Eof n - 1) d.mant d.exp
def atC (d : Dec) (n : Nat) : Ordering := cmpScaled (2 * Mof n) (Eof n - 1) d.mant d.exp

/-- the literal lies in the rounding interval of the positive double with bit pattern `n`; the ends
    belong to it when the significand is even -/
def roundsTo (d : Dec) (n : Nat) : Bool :=
  (upC d n == .gt || (upC d n == .eq && Mof n % 2 == 0)) &&
    (loC d n == .lt || (loC d n == .eq && Mof n % 2 == 0))

theorem roundsTo_iff {d : Dec} {n : Nat} : roundsTo d n = true ↔
    (upC d n = .gt ∨ upC d n = .eq ∧ Mof n % 2 = 0) ∧ (loC d n = .lt ∨ loC d n = .eq ∧ Mof n % 2 = 0) := by
  simp only [roundsTo, Bool.and_eq_true, Bool.or_eq_true, beq_iff_eq]

theorem succ_div_mod {B : Nat} (hB : 0 < B) (n : Nat) :
    ((n + 1) / B = n / B ∧ (n + 1) % B = n % B + 1) ∨
    ((n + 1) / B = n / B + 1 ∧ (n + 1) % B = 0 ∧ B = n % B + 1) := by
  have hn : n + 1 = B * (n / B) + (n % B + 1) := by rw [← Nat.add_assoc, Nat.div_add_mod]
  rw [hn, Nat.mul_add_div hB, Nat.mul_add_mod]
  rcases Nat.lt_or_ge (n % B + 1) B with h | h
  · exact .inl ⟨congrArg (n / B + ·) (Nat.div_eq_of_lt h), Nat.mod_eq_of_lt h⟩
  · have h := Nat.le_antisymm h (Nat.mod_lt n hB)
    exact .inr ⟨by rw [← h, Nat.div_self hB], by rw [← h, Nat.mod_self], h⟩

/-- From a double to the next the significand grows by one; at the top of a normal binade it
    falls back to `2^52` and the exponent grows instead.  (The last subnormal and the first normal
    share the exponent `-1074`, so that step is of the first kind.)  Either way the lower rounding
    boundary of `n+1` is the upper rounding boundary of `n`. -/
theorem succ_step (d : Dec) (n : Nat) :
    loC d (n + 1) = upC d n ∧
      ((Mof (n + 1) = Mof n + 1 ∧ Eof (n + 1) = Eof n) ∨
        (2 * Mof (n + 1) = Mof n + 1 ∧ Eof (n + 1) - 1 = Eof n)) := by
  have hB := Nat.two_pow_pos 52
  unfold loC upC Mof Eof
  -- with `2 ^ 52` a variable and quotient and remainder named, the arithmetic left is small
  generalize 2 ^ 52 = B at *
  rcases succ_div_mod hB n with ⟨hd, hm⟩ | ⟨hd, hm, h⟩
  · rw [hd, hm, if_neg (fun h => Nat.succ_ne_zero _ h.1)]
    split <;> exact ⟨rfl, .inl ⟨rfl, rfl⟩⟩
  · rw [hd, hm, if_neg (Nat.succ_ne_zero _), if_neg (Nat.succ_ne_zero _)]
    generalize n % B = m at h
    generalize n / B = e
    subst h
    by_cases hz : e = 0
    · rw [hz, if_neg (by decide), if_pos rfl, if_pos rfl]
      exact ⟨rfl, .inl ⟨rfl, rfl⟩⟩
    · have hE : ((e + 1 : Nat) : Int) - 1075 - 1 = e - 1075 := by
        rw [Int.natCast_add_one, Int.sub_sub, Int.add_sub_add_right]
      -- `4·2^52 - 1 = 2·(2^52 + m) + 1` as `2^52 = m + 1`
      rw [if_pos ⟨rfl, Nat.succ_lt_succ (Nat.pos_of_ne_zero hz)⟩, if_neg hz, if_neg hz,
        (Nat.mul_assoc 2 2 _ : 4 * _ = _), Nat.two_mul (m + 1 + 0), ← hE, Int.sub_sub _ 1 1]
      exact ⟨rfl, .inr ⟨rfl, rfl⟩⟩

set_option linter.unusedVariables false in  -- `hn` is not used
theorem loC_succ (d : Dec) (n : Nat) (hn : 0 < n) : loC d (n + 1) = upC d n :=
  (succ_step d n).1

theorem upC_of_atC (d : Dec) (n : Nat) (h : atC d n ≠ .lt) : upC d n = .gt :=
  (cmpScaled_lt_or_gt (Nat.lt_succ_self _) ..).resolve_left h

theorem atC_succ (d : Dec) (n : Nat) (h : upC d n ≠ .lt) : atC d (n + 1) = .gt := by
  unfold atC
  rcases (succ_step d n).2 with ⟨hM, hE⟩ | ⟨hM, hE⟩
  · rw [hM, hE]
    exact (cmpScaled_lt_or_gt (Nat.lt_succ_self _) ..).resolve_left h
  · rw [hM, hE, ← cmpScaled_double]
    exact (cmpScaled_lt_or_gt (Nat.lt_succ_self _) ..).resolve_left h

theorem upC_succ (d : Dec) (n : Nat) (h : upC d n ≠ .lt) : upC d (n + 1) = .gt :=
  upC_of_atC d _ (fun e => nomatch (atC_succ d n h).symm.trans e)

theorem upC_mono (d : Dec) {n n' : Nat} (hlt : n < n') (h : upC d n ≠ .lt) : upC d n' = .gt := by
  induction hlt with
  | refl => exact upC_succ d n h
  | step _ ih => exact upC_succ d _ (fun e => nomatch ih.symm.trans e)

/-- The rounding intervals of different doubles are disjoint: the upper ends increase strictly, the
    lower end of one is the upper end of its predecessor, and of two neighbours only one has an even
    significand. -/
theorem roundsTo_lt_excl (d : Dec) {n n' : Nat} (hlt : n < n')
    (h : roundsTo d n = true) (h' : roundsTo d n' = true) : False := by
  obtain ⟨p, rfl⟩ := Nat.exists_eq_add_one_of_ne_zero (Nat.ne_of_gt (Nat.zero_lt_of_lt hlt))
  obtain ⟨hu, -⟩ := roundsTo_iff.mp h
  obtain ⟨-, hl⟩ := roundsTo_iff.mp h'
  rw [(succ_step d p).1] at hl
  have hne : upC d n ≠ .lt :=
    hu.elim (fun h e => nomatch h.symm.trans e) (fun h e => nomatch h.1.symm.trans e)
  rcases Nat.lt_succ_iff_lt_or_eq.mp hlt with hp | rfl
  · rw [upC_mono d hp hne] at hl
    exact hl.elim nofun fun h => nomatch h.1
  · -- the common end is met from both sides, so with equality and two even significands
    obtain ⟨heq, hl⟩ := hl.resolve_left hne
    obtain ⟨-, he⟩ := hu.resolve_left fun h => nomatch h.symm.trans heq
    have : (Mof n + 1) % 2 = 0 := by
      rcases (succ_step d n).2 with ⟨h, -⟩ | ⟨h, -⟩
      · exact h ▸ hl
      · exact h ▸ Nat.mul_mod_right 2 _
    rw [Nat.add_mod, he] at this
    cases this

theorem roundsTo_functional (d : Dec) {n n' : Nat}
    (h : roundsTo d n = true) (h' : roundsTo d n' = true) : n = n' := by
  rcases Nat.lt_trichotomy n n' with hlt | heq | hgt
  · exact (roundsTo_lt_excl d hlt h h').elim
  · exact heq
  · exact (roundsTo_lt_excl d hgt h' h).elim

theorem roundsTo_zero_mant (d : Dec) {n : Nat} (hn : n ≠ 0) (hd : d.mant = 0) :
    roundsTo d n = false := by
  obtain ⟨p, rfl⟩ := Nat.exists_eq_add_one_of_ne_zero hn
  have : loC d (p + 1) = .gt := by
    rw [(succ_step d p).1, upC, hd]
    exact cmpScaled_zero_right _ _ _ (Nat.succ_pos _)
  refine Bool.eq_false_iff.mpr fun h => ?_
  rcases (roundsTo_iff.mp h).2 with h | ⟨h, -⟩ <;> cases this.symm.trans h

theorem roundsTo_of_exact (d : Dec) {n : Nat} (hn : n ≠ 0) (h : atC d n = .eq) :
    roundsTo d n = true := by
  obtain ⟨p, rfl⟩ := Nat.exists_eq_add_one_of_ne_zero hn
  have hup : upC d (p + 1) = .gt := upC_of_atC d _ (fun e => nomatch h.symm.trans e)
  have hlo : upC d p = .lt := Decidable.by_contra fun hne => nomatch h.symm.trans (atC_succ d p hne)
  exact roundsTo_iff.mpr ⟨.inl hup, .inl ((succ_step d p).1.trans hlo)⟩

theorem exists_exact (s : Bool) (n : Nat) : ∃ m x, atC ⟨s, m, x⟩ n = .eq := by
  unfold atC
  obtain ⟨t, ht | ht⟩ := Int.eq_nat_or_neg (Eof n) <;> rw [ht]
  · exact ⟨_, _, cmpScaled_exact_int _ t⟩
  · exact ⟨_, _, cmpScaled_exact_frac _ t⟩

theorem decIsKey_zero (d : Dec) : decIsKey d 0 = (d.mant == 0) := by
  simp only [decIsKey, BEq.rfl, ↓reduceIte]

theorem decIsKey_of_ne_zero (d : Dec) (k : Int) (hk : k ≠ 0) :
    decIsKey d k = (decide (k.natAbs / 2 ^ 52 < 2047) && ((d.neg == decide (k < 0)) &&
      roundsTo d k.natAbs)) := by
  rw [decIsKey, beq_false_of_ne hk, if_neg Bool.false_ne_true]
  by_cases he : k.natAbs / 2 ^ 52 ≥ 2047
  · rw [if_pos he, decide_eq_false (Nat.not_lt.mpr he), Bool.false_and]
  · rw [if_neg he, decide_eq_true (Nat.not_le.mp he), Bool.true_and]
    unfold roundsTo upC loC Mof Eof
    by_cases hz : k.natAbs / 2 ^ 52 = 0
    · simp only [hz, if_true, Bool.and_assoc, Bool.and_eq_true, beq_iff_eq, decide_eq_true_eq]
    · simp only [hz, beq_false_of_ne hz, if_false, Bool.and_assoc, Bool.false_eq_true,
        Bool.and_eq_true, beq_iff_eq, decide_eq_true_eq]

theorem decIsKey_nonfinite (d : Dec) (k : Int) (hk : k.natAbs / 2 ^ 52 ≥ 2047) :
    decIsKey d k = false := by
  have h0 : k ≠ 0 := by
    rintro rfl
    exact absurd hk (by decide)
  rw [decIsKey_of_ne_zero d k h0, decide_eq_false (Nat.not_lt.mpr hk), Bool.false_and]

theorem decIsKey_sign (d : Dec) (k : Int) (h0 : k ≠ 0) (h : decIsKey d k = true) :
    d.neg = decide (k < 0) := by
  simp only [decIsKey_of_ne_zero d k h0, Bool.and_eq_true, beq_iff_eq] at h
  exact h.2.1

theorem decIsKey_pos_roundsTo (d : Dec) (n : Nat) (hn : n ≠ 0) (he : n / 2 ^ 52 < 2047) :
    decIsKey d (n : Int) = ((d.neg == false) && roundsTo d n) := by
  rw [decIsKey_of_ne_zero d n (Int.natCast_ne_zero.mpr hn), Int.natAbs_natCast, decide_eq_true he,
    decide_eq_false (Int.not_lt.mpr (Int.natCast_nonneg n)), Bool.true_and]

theorem decIsKey_pos (d : Dec) (n : Nat) (hn : 0 < n) (he : n / 2 ^ 52 < 2047) :
    decIsKey d (n : Int) =
      (let e := n / 2 ^ 52
       let m := n % 2 ^ 52
       let M := if e = 0 then m else 2 ^ 52 + m
       let E : Int := if e = 0 then -1074 else ((e : Nat) : Int) - 1075
       let up := cmpScaled (2 * M + 1) (E - 1) d.mant d.exp
       let lo := if m = 0 ∧ e > 1 then cmpScaled (4 * M - 1) (E - 2) d.mant d.exp
                 else cmpScaled (2 * M - 1) (E - 1) d.mant d.exp
       (d.neg == false) && (up == .gt || (up == .eq && M % 2 == 0)) &&
         (lo == .lt || (lo == .eq && M % 2 == 0))) := by
  rw [decIsKey_pos_roundsTo d n (Nat.ne_of_gt hn) he, Bool.and_assoc]
  rfl

theorem decIsKey_neg (d : Dec) (n : Nat) (hn : 0 < n) :
    decIsKey d (-(n : Int)) = decIsKey { d with neg := !d.neg } (n : Int) := by
  have h0 := Int.natCast_ne_zero.mpr (Nat.ne_of_gt hn)
  rw [decIsKey_of_ne_zero d _ (Int.neg_ne_zero.mpr h0), decIsKey_of_ne_zero _ (n : Int) h0,
    Int.natAbs_neg, decide_eq_true (Int.neg_neg_of_pos (Int.natCast_pos.mpr hn)),
    decide_eq_false (Int.not_lt.mpr (Int.natCast_nonneg n))]
  cases d.neg <;> rfl

theorem decIsKey_zero_mant (d : Dec) (k : Int) (hk : k ≠ 0) (hd : d.mant = 0) :
    decIsKey d k = false := by
  rw [decIsKey_of_ne_zero d k hk, roundsTo_zero_mant d (Int.natAbs_ne_zero.mpr hk) hd, Bool.and_false,
    Bool.and_false]

theorem decIsKey_zero_mant_pos (d : Dec) (n : Nat) (hn : 0 < n) (hd : d.mant = 0) :
    decIsKey d (n : Int) = false :=
  decIsKey_zero_mant d n (Int.natCast_ne_zero.mpr (Nat.ne_of_gt hn)) hd

theorem decIsKey_functional (d : Dec) (k k' : Int)
    (h : decIsKey d k = true) (h' : decIsKey d k' = true) : k = k' := by
  by_cases hm : d.mant = 0
  · have (k : Int) (h : decIsKey d k = true) : k = 0 :=
      Decidable.by_contra fun hk => Bool.false_ne_true ((decIsKey_zero_mant d k hk hm).symm.trans h)
    rw [this k h, this k' h']
  · have (k : Int) (h : decIsKey d k = true) : k ≠ 0 := by
      rintro rfl
      exact hm (by simpa only [decIsKey_zero, beq_iff_eq] using h)
    have hk := this k h
    have hk' := this k' h'
    simp only [decIsKey_of_ne_zero d _ hk, decIsKey_of_ne_zero d _ hk', Bool.and_eq_true,
      beq_iff_eq] at h h'
    have hs := decide_eq_decide.mp (h.2.1.symm.trans h'.2.1)
    -- equal magnitudes and equal signs
    rcases Int.natAbs_eq_natAbs_iff.mp (roundsTo_functional d h.2.2 h'.2.2) with rfl | rfl
    · rfl
    · omega

theorem decIsKey_of_exact (d : Dec) {n : Nat} (hn : n ≠ 0) (hf : n / 2 ^ 52 < 2047)
    (hs : d.neg = false) (h : atC d n = .eq) : decIsKey d (n : Int) = true := by
  rw [decIsKey_pos_roundsTo d n hn hf, hs, roundsTo_of_exact d hn h]
  rfl

theorem decIsKey_exact_int (n t : Nat) (ht : n / 2 ^ 52 = 1075 + t) (hf : n / 2 ^ 52 < 2047) :
    decIsKey ⟨false, (2 ^ 52 + n % 2 ^ 52) * 2 ^ t, 0⟩ (n : Int) = true := by
  have hz : n / 2 ^ 52 ≠ 0 := ht ▸ Nat.ne_of_gt (Nat.lt_add_right t (by decide))
  have hE : ((1075 + t : Nat) : Int) - 1075 = t := by
    rw [Int.natCast_add, Int.add_comm]
    exact Int.add_sub_cancel ..
  refine decIsKey_of_exact _ (fun h => hz (by rw [h, Nat.zero_div])) hf rfl ?_
  rw [atC, Mof, Eof, if_neg hz, if_neg hz, ht, hE]
  exact cmpScaled_exact_int _ t

theorem decIsKey_exact_frac (n k : Nat) (hn : 0 < n) (he : n / 2 ^ 52 < 1075)
    (hk : (if n / 2 ^ 52 = 0 then 1074 else 1075 - n / 2 ^ 52) = k) :
    decIsKey ⟨false, Mof n * 5 ^ k, -(k : Int)⟩ (n : Int) = true := by
  have hE : Eof n = -(k : Int) := by
    subst hk
    unfold Eof
    split
    · rfl
    · rw [Int.ofNat_sub (Nat.le_of_lt he), Int.neg_sub]
      rfl
  refine decIsKey_of_exact _ (Nat.ne_of_gt hn) (Nat.lt_trans he (by decide)) rfl ?_
  rw [atC, hE]
  exact cmpScaled_exact_frac (Mof n) k

theorem decIsKey_satisfiable (k : Int) (hk : k.natAbs / 2 ^ 52 < 2047) : ∃ d : Dec, decIsKey d k = true := by
  by_cases h0 : k = 0
  · subst h0
    exact ⟨⟨false, 0, 0⟩, decIsKey_zero _⟩
  · obtain ⟨m, x, h⟩ := exists_exact (decide (k < 0)) k.natAbs
    refine ⟨⟨decide (k < 0), m, x⟩, ?_⟩
    rw [decIsKey_of_ne_zero _ k h0, decide_eq_true hk, roundsTo_of_exact _ (Int.natAbs_ne_zero.mpr h0) h]
    simp only [BEq.rfl, Bool.and_self]

/-- the lambda in `digitsVal` (SodModel/Codec.lean) verbatim: `digitsVal_of_ne_nil` type-checks by
    unfolding it -/
def dstep (acc : Option Nat) (c : Char) : Option Nat :=
  acc.bind (fun a => if c.isDigit then some (a * 10 + (c.toNat - 48)) else none)

theorem dstep_digit {c : Char} (hc : c.isDigit = true) (acc : Option Nat) :
    dstep acc c = acc.map (fun a => a * 10 + (c.toNat - 48)) := by
  cases acc with
  | none => rfl
  | some a => exact if_pos hc

theorem dstep_nondigit {c : Char} (hc : c.isDigit = false) (acc : Option Nat) : dstep acc c = none := by
  cases acc with
  | none => rfl
  | some a => exact if_neg (ne_true_of_eq_false hc)

theorem digitsVal_of_ne_nil {l : List Char} (hl : l ≠ []) : digitsVal l = l.foldl dstep (some 0) :=
  if_neg (by simpa only [List.isEmpty_iff, ne_eq] using hl)

theorem digitsVal_snoc (l : List Char) (c : Char) (hl : l ≠ []) (hc : c.isDigit = true) :
    digitsVal (l ++ [c]) = (digitsVal l).map (fun a => a * 10 + (c.toNat - 48)) := by
  rw [digitsVal_of_ne_nil hl, digitsVal_of_ne_nil (List.append_ne_nil_of_right_ne_nil _ (List.cons_ne_nil _ _)),
    List.foldl_append]
  exact dstep_digit hc _

theorem digitsVal_nondigit (l r : List Char) (c : Char) (hc : c.isDigit = false) :
    digitsVal (l ++ c :: r) = none := by
  have hnone : ∀ r : List Char, List.foldl dstep none r = none := by
    intro r
    induction r with
    | nil => rfl
    | cons x xs ih => exact ih
  rw [digitsVal_of_ne_nil (List.append_ne_nil_of_right_ne_nil _ (List.cons_ne_nil _ _)), List.foldl_append,
    List.foldl_cons, dstep_nondigit hc, hnone]

theorem parseDec_digits (cs : List Char) (hne : cs ≠ []) (hd : ∀ c ∈ cs, c.isDigit = true) :
    parseDec (String.ofList cs) = (digitsVal cs).map (fun m => ⟨false, m, 0⟩) := by
  have htw : cs.takeWhile Char.isDigit = cs := by
    simpa only [List.append_nil, List.takeWhile_nil] using
      List.takeWhile_append_of_pos (p := Char.isDigit) (l₂ := []) hd
  have hdw : cs.dropWhile Char.isDigit = [] := by
    simpa only [List.append_nil, List.dropWhile_nil] using
      List.dropWhile_append_of_pos (p := Char.isDigit) (l₂ := []) hd
  obtain ⟨c, r, rfl⟩ := List.exists_cons_of_ne_nil hne
  have hc : c ≠ '-' := by
    rintro rfl
    exact absurd (hd _ List.mem_cons_self) (by decide)
  unfold parseDec
  rw [String.toList_ofList]
  dsimp only
  split
  · rename_i heq
    exact absurd (List.cons.inj heq).1 hc
  · -- all of `c :: r` is the integer part and nothing follows it: no fraction, exponent `0`.  Left is
    -- `(digitsVal (c :: r)).bind fun m => some ⟨false, m, 0⟩` against the `map` of the statement
    simp only [htw, hdw, List.isEmpty_cons, Bool.false_eq_true, ↓reduceIte, List.append_nil, List.length_nil,
      Int.cast_ofNat_Int, Int.sub_zero, Option.pure_def, Option.bind_eq_bind, Option.bind_some]
    cases digitsVal (c :: r) <;> rfl

open Sod Sod.Json

theorem valueIs_functional (j : J) (v w : Val) (ht : v.tag = w.tag)
    (h : valueIs j v = true) (h' : valueIs j w = true) : v = w := by
  unfold valueIs at h
  split at h
  · cases w <;> cases ht
    exact congrArg _ (Int.repr_injective ((beq_iff_eq.mp h).symm.trans (beq_iff_eq.mp h')))
  · cases w <;> cases ht
    exact congrArg _ (Nat.repr_injective ((beq_iff_eq.mp h).symm.trans (beq_iff_eq.mp h')))
  · cases w <;> cases ht
    rw [valueIs] at h'
    split at h
    · rename_i d hd
      rw [hd] at h'
      exact congrArg _ (decIsKey_functional d _ _ h h')
    · cases h
  · cases w <;> cases ht
    exact congrArg _ ((beq_iff_eq.mp h).symm.trans (beq_iff_eq.mp h'))
  · cases h

theorem valueIs_kind (j : J) (v : Val) (h : valueIs j v = true) :
    (∃ b, j = .str b ∧ ∃ s, v = .str s) ∨ (∃ l, j = .num l ∧ ∀ s, v ≠ .str s) := by
  unfold valueIs at h
  split at h
  · exact .inr ⟨_, rfl, nofun⟩
  · exact .inr ⟨_, rfl, nofun⟩
  · exact .inr ⟨_, rfl, nofun⟩
  · exact .inl ⟨_, rfl, _, rfl⟩
  · cases h

theorem valueIs_digits (cs : List Char) (hne : cs ≠ []) (hd : ∀ c ∈ cs, c.isDigit = true) {m : Nat}
    (hv : digitsVal cs = some m) (k : Int) :
    valueIs (.num (String.ofList cs)) (.f64 k) = decIsKey ⟨false, m, 0⟩ k := by
  simp only [valueIs, parseDec_digits cs hne hd, hv, Option.map_some]

/-! The checkers of schema.json are `Except` programs: a chain of binds and of guards, `expect` or
  `if _ then .error _ else _`.  The four lemmas below turn "the program returned `.ok`" into the
  conjunction of what each step must have returned: rewriting a `do` block with them leaves its lines in
  order, `let a ← line` as `∃ a, line = .ok a ∧ rest` (two places of an `obtain` pattern), a line without a
  value as `line = .ok () ∧ rest`, a guard `expect b _` as `b = true ∧ rest`, a guard
  `if c then .error _ else rest` as `¬ c ∧ rest`. -/

theorem bind_ok {ε α β : Type} {x : Except ε α} {f : α → Except ε β} {b : β} :
    x >>= f = .ok b ↔ ∃ a, x = .ok a ∧ f a = .ok b := by
  cases x <;>
    simp only [bind, Except.bind, Except.ok.injEq, exists_eq_left', reduceCtorEq, false_and, exists_false]

theorem exists_unit {p : Unit → Prop} : (∃ u, p u) ↔ p () := ⟨fun ⟨_, h⟩ => h, fun h => ⟨(), h⟩⟩

theorem expect_ok {b : Bool} {msg : String} {u : Unit} : expect b msg = .ok u ↔ b = true := by
  cases b <;> simp only [expect, Bool.false_eq_true, ↓reduceIte, reduceCtorEq]

theorem ite_error_ok {ε α : Type} {c : Prop} [Decidable c] {e : ε} {x : Except ε α} {a : α} :
    (if c then .error e else x) = .ok a ↔ ¬ c ∧ x = .ok a := by
  split <;> simp only [not_false_eq_true, true_and, reduceCtorEq, not_true_eq_false, false_and, *]

theorem keysWithin_ok (j : J) (allowed : List String) (what : String)
    (h : keysWithin j allowed what = .ok ()) :
    ∃ kv, j = .obj kv ∧ ∀ p ∈ kv, ∃ a ∈ allowed, sbytes a = p.1 := by
  unfold keysWithin at h
  split at h
  · rename_i kv
    refine ⟨kv, rfl, fun p hp => ?_⟩
    split at h
    · cases h
    · rename_i hnone
      simpa only [Bool.not_eq_true', Bool.not_eq_false, List.any_eq_true, beq_iff_eq] using
        List.find?_eq_none.mp hnone p hp
  · cases h

theorem checkCons_ok (j : Option J) (c : Cons) (what : String) (h : checkCons j c what = .ok ()) :
    ∃ jj, j = some jj ∧
      getBool jj "index" (some false) = .ok c.index ∧ getBool jj "unique" (some false) = .ok c.unique ∧
      getBool jj "upper" (some false) = .ok c.upper ∧ getBool jj "lower" (some false) = .ok c.lower := by
  cases j with
  | none => cases h
  | some jj =>
    simp only [checkCons, bind_ok, exists_unit, expect_ok, Bool.and_eq_true, beq_iff_eq] at h
    -- the key check (not used), the four flags read, the guard that each is the flag of `c`
    obtain ⟨-, i, hi, u, hu, up, hup, lo, hlo, ⟨⟨rfl, rfl⟩, rfl⟩, rfl⟩ := h
    exact ⟨jj, rfl, hi, hu, hup, hlo⟩

theorem checkAsync_ok (j : Option J) (a : Option Async) (h : checkAsync j a = .ok ()) :
    (a = none → ∀ jj, j = some jj → getBool jj "enable" none = .ok false) ∧
    (∀ aa, a = some aa → ∃ jj, j = some jj ∧ getBool jj "enable" none = .ok true ∧
      ∃ t d ns, jj.get? "threshold" = some (.num t) ∧ jj.get? "timeout" = some (.str d) ∧
        t = toString aa.threshold ∧ parseDurationNs (String.ofList (d.map Char.ofNat)) = some ns ∧
        (ns + 99999999) / 100000000 = aa.timeout) := by
  rcases j with _ | jj <;> rcases a with _ | aa
  · exact ⟨fun _ _ => nofun, fun _ => nofun⟩
  · cases h
  · simp only [checkAsync, bind_ok, exists_unit, expect_ok, Bool.not_eq_true'] at h
    -- the key check (not used), `enable` read as `en`, the guard `en = false`
    obtain ⟨-, en, hen, rfl⟩ := h
    exact ⟨fun _ _ hj => Option.some.inj hj ▸ hen, fun _ => nofun⟩
  · simp only [checkAsync, bind_ok, exists_unit, expect_ok] at h
    -- the key check (not used), `enable` read as `en`, the guard `en = true`, and in `h` the `match` on the two texts
    obtain ⟨-, en, hen, rfl, h⟩ := h
    refine ⟨nofun, fun _ ha => Option.some.inj ha ▸ ⟨jj, rfl, hen, ?_⟩⟩
    split at h
    · rename_i t d ht hd
      simp only [bind_ok, exists_unit, expect_ok, beq_iff_eq] at h
      -- the guard on the threshold text, and in `h` the `match` on the duration
      obtain ⟨htt, h⟩ := h
      split at h
      · rename_i ns hns
        -- `(ns + 99999999) / 100000000`: the timeout rounded up to the steps the flusher sleeps in
        -- (`step := time.Millisecond * 100`, `startAsyncWritesRoutine` in /repo/sod.go)
        exact ⟨t, d, ns, ht, hd, htt, hns, beq_iff_eq.mp (expect_ok.mp h)⟩
      · cases h
    · cases h

theorem mapM_eq_some {α β : Type} {f : α → Option β} {l : List α} :
    ∀ {r : List β}, l.mapM f = some r → l.map f = r.map some := by
  induction l with
  | nil =>
    intro r h
    cases h
    rfl
  | cons a l ih =>
    intro r h
    rw [List.mapM_cons, Option.bind_eq_bind] at h
    obtain ⟨b, hb, h⟩ := Option.bind_eq_some_iff.mp h
    obtain ⟨bs, hbs, h⟩ := Option.bind_eq_some_iff.mp h
    cases h
    rw [List.map_cons, List.map_cons, hb, ih hbs]

theorem zip_take_drop {α β : Type} {P : α × β → Prop} {l : List α} {r : List β} (n : Nat)
    (hl : (l.take n).length = (r.take n).length) (ht : ∀ p ∈ (l.take n).zip (r.take n), P p)
    (hd : (l.drop n).length = (r.drop n).length ∧ ∀ p ∈ (l.drop n).zip (r.drop n), P p) :
    l.length = r.length ∧ ∀ p ∈ l.zip r, P p := by
  rw [← List.take_append_drop n l, ← List.take_append_drop n r, List.length_append,
    List.length_append, hl, hd.1, List.zip_append hl]
  exact ⟨rfl, fun p hp => (List.mem_append.mp hp).elim (ht p) (hd.2 p)⟩

/-- one round of the entry comparison: the run of `n` equal values at the head of the model's index
    is matched against as many well-formed file entries with that value (that the object ids of the
    run agree as sets goes through `Array.qsort` and is left out) -/
theorem checkEntries_cons {name : String} {fi mi : List (Nat × Nat)} {fuel i : Nat} {js : List J}
    {x : Val} {o : Nat} {es : FIdx}
    (h : checkEntries name fi mi (fuel + 1) i js ((x, o) :: es) = .ok ()) :
    ∃ n, (js.take n).length = (((x, o) :: es).take n).length ∧
      (∀ j ∈ js.take n, ∀ e ∈ ((x, o) :: es).take n,
        ∃ v o', entryOf j = some (v, o') ∧ valueIs v e.1 = true) ∧
      checkEntries name fi mi fuel (i + n) (js.drop n) (((x, o) :: es).drop n) = .ok () := by
  cases js with
  | nil => cases h
  | cons j js =>
    unfold checkEntries at h
    dsimp only at h
    split at h
    · cases h
    · rename_i fe hfe
      simp only [ite_error_ok, bne_iff_ne, ne_eq, Decidable.not_not, Bool.not_eq_true,
        Bool.not_eq_false'] at h
      -- the guards in order: as many entries as the run, every value is `x`, every file id has a uuid and
      -- the two sets of uuids agree (neither used), then the rest of the lists
      obtain ⟨hlen, hval, -, -, hrec⟩ := h
      have hmap := mapM_eq_some hfe
      have hrun := List.prefix_iff_eq_take.mp (List.takeWhile_prefix (fun e => e.1 == x) (l := (x, o) :: es))
      refine ⟨_, ?_, fun j hj e he => ?_, hrec⟩
      · have := congrArg List.length hmap
        rw [List.length_map, List.length_map] at this
        rw [this, hlen, ← hrun]
      · obtain ⟨b, hb, hfb⟩ := List.mem_map.mp (hmap ▸ List.mem_map_of_mem (f := entryOf) hj)
        rw [← hrun] at he
        have hx := List.all_eq_true.mp List.all_takeWhile _ he
        exact ⟨b.1, b.2, hfb.symm, beq_iff_eq.mp hx ▸ List.all_eq_true.mp hval b hb⟩

theorem checkEntries_ok (name : String) (fi mi : List (Nat × Nat)) :
    ∀ (fuel i : Nat) (js : List J) (es : FIdx), checkEntries name fi mi fuel i js es = .ok () →
      js.length = es.length ∧
      ∀ p ∈ js.zip es, ∃ v o, entryOf p.1 = some (v, o) ∧ valueIs v p.2.1 = true := by
  intro fuel
  induction fuel with
  | zero => exact fun i js es h => nomatch h
  | succ fuel ih =>
    intro i js es h
    match es with
    | [] =>
      cases js with
      | nil => exact ⟨rfl, fun _ hp => absurd hp List.not_mem_nil⟩
      | cons => cases h
    | (x, o) :: es =>
      obtain ⟨n, hl, hrun, hrec⟩ := checkEntries_cons h
      exact zip_take_drop n hl (fun p hp => hrun _ (List.of_mem_zip hp).1 _ (List.of_mem_zip hp).2)
        (ih _ _ _ hrec)

theorem checkFieldIndex_ok (fileIds modelIds : List (Nat × Nat)) (j : J) (fi : FieldIdx)
    (h : checkFieldIndex fileIds modelIds j fi = .ok ()) :
    getStr j "name" = .ok (sbytes fi.name) ∧ getStr j "cast" = .ok (sbytes fi.cast.name) ∧
    (∃ cj, j.get? "constraints" = some cj ∧
      getBool cj "index" (some false) = .ok fi.cons.index ∧ getBool cj "unique" (some false) = .ok fi.cons.unique ∧
      getBool cj "upper" (some false) = .ok fi.cons.upper ∧ getBool cj "lower" (some false) = .ok fi.cons.lower) ∧
    ∃ l, j.get? "index" = some (.arr l) ∧ l.length = fi.idx.length := by
  simp only [checkFieldIndex, bind_ok, exists_unit, expect_ok, beq_iff_eq] at h
  -- the key check (not used), the name read and the guard on it, the cast read and the guard on it, the
  -- constraints checked (`hcons`), and in `h` the `match` on the entry list
  obtain ⟨-, n, hn, rfl, c, hc, rfl, hcons, h⟩ := h
  split at h
  · rename_i l hl
    exact ⟨hn, hc, checkCons_ok _ _ _ hcons, l, hl, (checkEntries_ok _ _ _ _ _ _ _ h).1⟩
  · cases h

theorem checkIds_ok (j : J) (ids got : List (Nat × Nat)) (h : checkIds j ids = .ok got) :
    ∃ kv, j = .obj kv ∧ got.length = kv.length ∧
      ∀ p ∈ got, ∃ q ∈ kv, natOf q.1 = some p.1 ∧ ∃ b, q.2 = .str b ∧ handleOf b = some p.2 := by
  unfold checkIds at h
  split at h
  · rename_i kv
    simp only [ite_error_ok, bne_iff_ne, ne_eq, Decidable.not_not, Except.ok.injEq] at h
    -- the guards in order: every member was read, no id or uuid twice and the uuids are the model's
    -- (neither used), then the answer
    obtain ⟨hlen, -, -, rfl⟩ := h
    refine ⟨kv, rfl, hlen, fun p hp => ?_⟩
    obtain ⟨q, hq, hqp⟩ := List.mem_filterMap.mp hp
    refine ⟨q, hq, ?_⟩
    split at hqp
    · rename_i oid b hoid hb
      obtain ⟨u, hu, rfl⟩ := Option.map_eq_some_iff.mp hqp
      exact ⟨hoid, b, hb, hu⟩
    · cases hqp
  · cases h

end Sod.Codec
namespace Sod.Json

theorem get?_mem (j : J) (k : String) (v : J) (h : j.get? k = some v) :
    ∃ kv, j = .obj kv ∧ (k.toUTF8.toList.map (·.toNat), v) ∈ kv := by
  cases j <;> simp only [J.get?, reduceCtorEq, Option.map_eq_some_iff] at h
  rename_i kv
  obtain ⟨p, hp, rfl⟩ := h
  have hk := List.find?_some hp
  simp only [beq_iff_eq] at hk
  exact ⟨kv, rfl, hk ▸ List.mem_of_find?_eq_some hp⟩

end Sod.Json
