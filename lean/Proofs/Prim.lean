/-
  Prim.lean — what every call of the model is built from, with its lemmas: association lists keyed
  by uuid, the directory primitives `Coll.fs` / `commit` / `setMem`, `startFlusher`, the view, what
  `Control` answers, and `Coll.schema` and `get` in any state of the handle.  Nothing here needs the
  invariant.
-/
import Proofs.Inv
namespace Sod

/-! ### association lists -/

namespace OMap

theorem get?_nil (u : Nat) : OMap.get? [] u = none := rfl

theorem get?_cons (p : Nat × Obj) (t : OMap) (u : Nat) :
    OMap.get? (p :: t) u = if p.1 = u then some p.2 else OMap.get? t u := by
  unfold OMap.get?
  rw [List.find?_cons]
  by_cases h : p.1 = u
  · rw [if_pos h, beq_iff_eq.mpr h]
    rfl
  · rw [if_neg h, beq_eq_false_iff_ne.mpr h]

theorem erase_cons (p : Nat × Obj) (t : OMap) (u : Nat) :
    OMap.erase (p :: t) u = if p.1 = u then OMap.erase t u else p :: OMap.erase t u := by
  unfold OMap.erase
  by_cases h : p.1 = u
  · simp only [h, bne_self_eq_false, Bool.false_eq_true, not_false_eq_true, List.filter_cons_of_neg, ↓reduceIte]
  · simp only [bne_iff_ne, ne_eq, h, not_false_eq_true, List.filter_cons_of_pos, ↓reduceIte]

theorem keys_nil : OMap.keys [] = [] := rfl

theorem keys_cons (p : Nat × Obj) (t : OMap) : OMap.keys (p :: t) = p.1 :: OMap.keys t := rfl

theorem mem_keys {m : OMap} {u : Nat} : u ∈ m.keys ↔ ∃ p ∈ m, p.1 = u := List.mem_map

theorem get?_eq_none_iff {m : OMap} {u : Nat} : m.get? u = none ↔ u ∉ m.keys := lookup_eq_none

theorem mem_of_get? {m : OMap} {u : Nat} {o : Obj} (h : m.get? u = some o) : (u, o) ∈ m := by
  obtain ⟨⟨_, _⟩, hp, rfl, rfl⟩ := lookup_eq_some h
  exact hp

theorem get?_of_mem {m : OMap} (h : m.keys.Nodup) {p : Nat × Obj} (hp : p ∈ m) : m.get? p.1 = some p.2 :=
  lookup_of_mem h hp

theorem get?_erase (m : OMap) (u w : Nat) : (m.erase u).get? w = if w = u then none else m.get? w := by
  by_cases hw : w = u
  · rw [if_pos hw, hw, get?_eq_none_iff]
    intro h
    obtain ⟨p, hp, e⟩ := mem_keys.mp h
    have := (List.mem_filter.mp hp).2
    rw [e, bne_self_eq_false] at this
    cases this
  · rw [if_neg hw]
    induction m with
    | nil => rfl
    | cons p t ih =>
      rw [erase_cons, get?_cons]
      by_cases hp : p.1 = u
      · rw [if_pos hp, ih, if_neg fun e : p.1 = w => hw (e.symm.trans hp)]
      · rw [if_neg hp, get?_cons, ih]

theorem get?_append (a b : OMap) (u : Nat) :
    OMap.get? (a ++ b) u = match a.get? u with | some o => some o | none => b.get? u := by
  unfold OMap.get?
  rw [List.find?_append]
  cases a.find? _ <;> rfl

theorem get?_put (m : OMap) (o : Obj) (w : Nat) :
    (m.put o).get? w = if w = o.uuid then some o else m.get? w := by
  rw [OMap.put, get?_append, get?_erase, get?_cons, get?_nil]
  by_cases h : w = o.uuid
  · simp only [h, ↓reduceIte]
  · have : o.uuid ≠ w := fun e => h e.symm
    cases hm : m.get? w <;> simp only [h, ↓reduceIte, this]

theorem get?_put_self (m : OMap) (o : Obj) : (m.put o).get? o.uuid = some o := by
  rw [get?_put, if_pos rfl]

theorem has_iff_get?_isSome (m : OMap) (u : Nat) : m.has u = (m.get? u).isSome := by
  rw [Bool.eq_iff_iff, OMap.has, List.any_eq_true, OMap.get?, Option.isSome_map, List.find?_isSome]

theorem has_eq_true_iff (m : OMap) (u : Nat) : m.has u = true ↔ ∃ o, m.get? u = some o := by
  rw [has_iff_get?_isSome, Option.isSome_iff_exists]

theorem has_eq_false_iff (m : OMap) (u : Nat) : m.has u = false ↔ m.get? u = none := by
  rw [has_iff_get?_isSome, Option.isSome_eq_false_iff, Option.isNone_iff_eq_none]

theorem mem_keys_iff_has (m : OMap) (u : Nat) : u ∈ m.keys ↔ m.has u = true := by
  rw [← Decidable.not_iff_not, ← get?_eq_none_iff, ← has_eq_false_iff, Bool.not_eq_true]

theorem has_put (m : OMap) (o : Obj) (w : Nat) : (m.put o).has w = (decide (w = o.uuid) || m.has w) := by
  rw [has_iff_get?_isSome, has_iff_get?_isSome, get?_put]
  by_cases h : w = o.uuid <;>
    simp only [h, ↓reduceIte, Option.isSome_some, decide_true, Bool.true_or, decide_false, Bool.false_or]

theorem has_erase (m : OMap) (u w : Nat) : (m.erase u).has w = (!decide (w = u) && m.has w) := by
  rw [has_iff_get?_isSome, has_iff_get?_isSome, get?_erase]
  by_cases h : w = u <;> simp [h]

theorem erase_of_not_has {m : OMap} {u : Nat} (h : m.has u = false) : m.erase u = m := by
  unfold OMap.erase
  rw [List.filter_eq_self]
  intro p hp
  unfold OMap.has at h
  rw [List.any_eq_false] at h
  exact bne_iff_ne.mpr fun e => h p hp (beq_iff_eq.mpr e)

theorem Keyed.nil : OMap.Keyed [] := fun _ hp => nomatch hp

theorem Keyed.erase {m : OMap} (h : m.Keyed) (u : Nat) : (m.erase u).Keyed :=
  fun p hp => h p (List.mem_filter.mp hp).1

theorem Keyed.put {m : OMap} (h : m.Keyed) (o : Obj) : (m.put o).Keyed := by
  intro p hp
  rcases List.mem_append.mp hp with hp | hp
  · exact h.erase _ p hp
  · cases List.mem_singleton.mp hp
    rfl

theorem Keyed.ite {b : Prop} [Decidable b] {m m' : OMap} (h : m.Keyed) (h' : m'.Keyed) :
    (if b then m else m').Keyed := by
  split <;> assumption

theorem Keyed.get? {m : OMap} (h : m.Keyed) {u : Nat} {o : Obj} (hg : m.get? u = some o) : o.uuid = u :=
  h _ (mem_of_get? hg)

theorem keys_nodup_eraseR {m : OMap} (h : m.keys.Nodup) (u : Nat) : (m.erase u).keys.Nodup :=
  h.sublist (List.Sublist.map _ List.filter_sublist)

theorem keys_nodup_putR {m : OMap} (h : m.keys.Nodup) (o : Obj) : (m.put o).keys.Nodup := by
  show ((m.erase o.uuid ++ [(o.uuid, o)]).map (·.1)).Nodup
  rw [List.map_append, List.nodup_append]
  refine ⟨keys_nodup_eraseR h _, List.nodup_cons.mpr ⟨List.not_mem_nil, List.nodup_nil⟩, ?_⟩
  intro a ha b hb e
  rw [List.mem_singleton.mp hb] at e
  exact get?_eq_none_iff.mp (by rw [get?_erase, if_pos rfl]) (e ▸ ha)

/-- write every entry of `ps` into `f`, in order (what `flushAll` does to the files) -/
def putAll (f : OMap) (ps : OMap) : OMap := ps.foldl (fun f p => f.put p.2) f

theorem putAll_nil (f : OMap) : putAll f [] = f := rfl
theorem putAll_cons (f : OMap) (p : Nat × Obj) (t : OMap) : putAll f (p :: t) = putAll (f.put p.2) t := rfl

theorem Keyed.putAll {f : OMap} (h : f.Keyed) (ps : OMap) : (putAll f ps).Keyed := by
  induction ps generalizing f with
  | nil => exact h
  | cons p t ih => exact ih (h.put p.2)

theorem get?_putAll {ps : OMap} (hk : ps.Keyed) (hn : ps.keys.Nodup) (f : OMap) (u : Nat) :
    (putAll f ps).get? u = match ps.get? u with | some o => some o | none => f.get? u := by
  induction ps generalizing f with
  | nil => rfl
  | cons p t ih =>
    rw [keys_cons, List.nodup_cons] at hn
    rw [putAll_cons, ih (fun q hq => hk q (List.mem_cons_of_mem _ hq)) hn.2, get?_cons, get?_put,
      hk p List.mem_cons_self]
    by_cases hu : p.1 = u
    · rw [if_pos hu, if_pos hu.symm, get?_eq_none_iff.mpr (hu ▸ hn.1)]
    · rw [if_neg hu, if_neg fun e => hu e.symm]

/-- erasing from a store that is empty when it is not in use: the condition does not matter -/
theorem ite_erase {b : Bool} {m : OMap} (u : Nat) (h : b = false → m = []) :
    (if b then m.erase u else m) = m.erase u := by
  cases b with
  | true => rfl
  | false =>
    rw [h rfl]
    rfl

end OMap

/-! ### the directory primitives -/

@[simp] theorem fs_mem (c : Coll) (op : FsOp) : (c.fs op).mem = c.mem := by
  unfold Coll.fs
  split <;> rfl
@[simp] theorem fs_cache (c : Coll) (op : FsOp) : (c.fs op).cache = c.cache := by
  unfold Coll.fs
  split <;> rfl
@[simp] theorem fs_pending (c : Coll) (op : FsOp) : (c.fs op).pending = c.pending := by
  unfold Coll.fs
  split <;> rfl
@[simp] theorem fs_live (c : Coll) (op : FsOp) : (c.fs op).live = c.live := by
  unfold Coll.fs
  split <;> rfl

theorem fs_mkdir_eq (c : Coll) :
    ∃ ops, c.fs .mkdir = { c with disk := { c.disk with dir := true }, log := c.log ++ ops } ∧
      ∀ x ∈ ops, x = FsOp.mkdir := by
  unfold Coll.fs
  split
  · rename_i hd
    exact ⟨[], by rw [List.append_nil, ← hd], fun _ hx => nomatch hx⟩
  · exact ⟨[.mkdir], rfl, fun _ hx => List.mem_singleton.mp hx⟩

theorem fs_mkdir_of_dir {c : Coll} (h : c.disk.dir = true) : c.fs .mkdir = c := by
  unfold Coll.fs
  rw [h]

@[simp] theorem fs_mkdir_files (c : Coll) : (c.fs .mkdir).disk.files = c.disk.files := by
  obtain ⟨_, h, _⟩ := fs_mkdir_eq c
  rw [h]
@[simp] theorem fs_mkdir_schema (c : Coll) : (c.fs .mkdir).disk.schema = c.disk.schema := by
  obtain ⟨_, h, _⟩ := fs_mkdir_eq c
  rw [h]
theorem fs_mkdir_dir (c : Coll) : (c.fs .mkdir).disk.dir = true := by
  obtain ⟨_, h, _⟩ := fs_mkdir_eq c
  rw [h]

theorem fs_writeObj_disk (c : Coll) (o : Obj) : (c.fs (.writeObj o)).disk = c.disk.apply (.writeObj o) := rfl
@[simp] theorem fs_writeObj_log (c : Coll) (o : Obj) : (c.fs (.writeObj o)).log = c.log ++ [.writeObj o] := rfl
@[simp] theorem fs_writeObj_files (c : Coll) (o : Obj) : (c.fs (.writeObj o)).disk.files = c.disk.files.put o := rfl
@[simp] theorem fs_writeObj_schema (c : Coll) (o : Obj) : (c.fs (.writeObj o)).disk.schema = c.disk.schema := rfl
@[simp] theorem fs_writeObj_dir (c : Coll) (o : Obj) : (c.fs (.writeObj o)).disk.dir = true := rfl

theorem fs_rmObj_disk (c : Coll) (u : Nat) : (c.fs (.rmObj u)).disk = c.disk.apply (.rmObj u) := rfl
@[simp] theorem fs_rmObj_log (c : Coll) (u : Nat) : (c.fs (.rmObj u)).log = c.log ++ [.rmObj u] := rfl
@[simp] theorem fs_rmObj_files (c : Coll) (u : Nat) : (c.fs (.rmObj u)).disk.files = c.disk.files.erase u := rfl
@[simp] theorem fs_rmObj_schema (c : Coll) (u : Nat) : (c.fs (.rmObj u)).disk.schema = c.disk.schema := rfl
@[simp] theorem fs_rmObj_dir (c : Coll) (u : Nat) : (c.fs (.rmObj u)).disk.dir = c.disk.dir := rfl

theorem fs_writeSchema_disk (c : Coll) (i : SchemaImg) :
    (c.fs (.writeSchema i)).disk = c.disk.apply (.writeSchema i) := rfl
@[simp] theorem fs_writeSchema_log (c : Coll) (i : SchemaImg) :
    (c.fs (.writeSchema i)).log = c.log ++ [.writeSchema i] := rfl
@[simp] theorem fs_writeSchema_files (c : Coll) (i : SchemaImg) : (c.fs (.writeSchema i)).disk.files = c.disk.files := rfl
@[simp] theorem fs_writeSchema_schema (c : Coll) (i : SchemaImg) : (c.fs (.writeSchema i)).disk.schema = some i := rfl

@[simp] theorem setMem_mem (c : Coll) (l : Loaded) : (c.setMem l).mem = some l := rfl
@[simp] theorem setMem_cache (c : Coll) (l : Loaded) : (c.setMem l).cache = c.cache := rfl
@[simp] theorem setMem_pending (c : Coll) (l : Loaded) : (c.setMem l).pending = c.pending := rfl
@[simp] theorem setMem_disk (c : Coll) (l : Loaded) : (c.setMem l).disk = c.disk := rfl
@[simp] theorem setMem_log (c : Coll) (l : Loaded) : (c.setMem l).log = c.log := rfl
@[simp] theorem setMem_live (c : Coll) (l : Loaded) : (c.setMem l).live = c.live := rfl

@[simp] theorem commit_mem (c : Coll) (l : Loaded) : (c.commit l).mem = c.mem := by
  simp only [Coll.commit, fs_mem]
@[simp] theorem commit_cache (c : Coll) (l : Loaded) : (c.commit l).cache = c.cache := by
  simp only [Coll.commit, fs_cache]
@[simp] theorem commit_pending (c : Coll) (l : Loaded) : (c.commit l).pending = c.pending := by
  simp only [Coll.commit, fs_pending]
@[simp] theorem commit_live (c : Coll) (l : Loaded) : (c.commit l).live = c.live := by
  simp only [Coll.commit, fs_live]
@[simp] theorem commit_files (c : Coll) (l : Loaded) : (c.commit l).disk.files = c.disk.files :=
  fs_mkdir_files c
@[simp] theorem commit_schema (c : Coll) (l : Loaded) : (c.commit l).disk.schema = some l.img := rfl
@[simp] theorem commit_dir (c : Coll) (l : Loaded) : (c.commit l).disk.dir = true := rfl

theorem commit_of_dir {c : Coll} (l : Loaded) (h : c.disk.dir = true) :
    c.commit l = c.fs (.writeSchema l.img) := by
  unfold Coll.commit
  rw [fs_mkdir_of_dir h]

theorem commit_log (c : Coll) (l : Loaded) :
    ∃ ops, (c.commit l).log = c.log ++ ops ∧ ∀ o, FsOp.writeObj o ∉ ops := by
  obtain ⟨ops, h, hm⟩ := fs_mkdir_eq c
  refine ⟨ops ++ [.writeSchema l.img], by unfold Coll.commit; rw [h]; exact (List.append_assoc ..), fun o ho => ?_⟩
  rcases List.mem_append.mp ho with ho | ho
  · cases hm _ ho
  · cases List.mem_singleton.mp ho

/-! ### the settings, and `startFlusher` -/

theorem mustCache_false {s : Settings} (h : s.mustCache = false) : s.cache = false ∧ s.async = none := by
  unfold Settings.mustCache at h
  rw [Bool.or_eq_false_iff] at h
  refine ⟨h.1, ?_⟩
  cases ha : s.async with
  | none => rfl
  | some a =>
    rw [ha] at h
    simp only [Option.isSome_some, Bool.true_eq_false, and_false] at h

theorem mustCache_of_async {s : Settings} (h : s.async.isSome = true) : s.mustCache = true := by
  unfold Settings.mustCache
  rw [h, Bool.or_true]

@[simp] theorem startFlusher_index (l : Loaded) : (startFlusher l).index = l.index := by
  unfold startFlusher
  split <;> rfl
@[simp] theorem startFlusher_settings (l : Loaded) : (startFlusher l).settings = l.settings := by
  unfold startFlusher
  split <;> rfl
@[simp] theorem startFlusher_descs (l : Loaded) : (startFlusher l).descs = l.descs := by
  unfold startFlusher
  split <;> rfl

theorem startFlusher_sync {l : Loaded} (ha : l.settings.async = none) : startFlusher l = l := by
  unfold startFlusher
  rw [ha]
  rfl

theorem startFlusher_idem (l : Loaded) : startFlusher (startFlusher l) = startFlusher l := by
  cases ha : l.settings.async.isSome <;> cases hf : l.flusher <;> simp [startFlusher, ha, hf]

theorem startFlusher_of_flusher {l : Loaded} (h : l.settings.async.isSome = true → l.flusher = true) :
    startFlusher l = l := by
  unfold startFlusher
  cases ha : l.settings.async.isSome with
  | false => rfl
  | true =>
    rw [h ha]
    rfl

theorem startFlusher_flusher {l : Loaded} (h : startFlusher l = l) (ha : l.settings.async.isSome = true) :
    l.flusher = true := by
  rw [← h]
  unfold startFlusher
  cases hf : l.flusher <;> simp [ha, hf]

/-! ### the view -/

theorem view_eq (c : Coll) (u : Nat) :
    c.view u = match c.pending.get? u with | some o => some o | none => c.disk.files.get? u := rfl

theorem view_congr {c c' : Coll} (hp : c'.pending = c.pending) (hf : c'.disk.files = c.disk.files) :
    c'.view = c.view := by
  funext u
  rw [view_eq, view_eq, hp, hf]

theorem view_commit (c : Coll) (l : Loaded) : (c.commit l).view = c.view :=
  view_congr (commit_pending c l) (commit_files c l)

theorem view_nopend {c : Coll} (hp : c.pending = []) (u : Nat) : c.view u = c.disk.files.get? u := by
  rw [view_eq, hp]
  rfl

theorem view_isSome (c : Coll) (u : Nat) : (c.view u).isSome = (c.pending.has u || c.disk.files.has u) := by
  rw [view_eq, OMap.has_iff_get?_isSome, OMap.has_iff_get?_isSome]
  cases c.pending.get? u <;> rfl

theorem updView_apply (v : Nat → Option Obj) (u : Nat) (x : Option Obj) (w : Nat) :
    updView v u x w = if w = u then x else v w := rfl

theorem OMap.get?_put_fn (m : OMap) (o : Obj) : (m.put o).get? = updView m.get? o.uuid (some o) :=
  funext (OMap.get?_put m o)

theorem OMap.get?_erase_fn (m : OMap) (u : Nat) : (m.erase u).get? = updView m.get? u none :=
  funext (OMap.get?_erase m u)

theorem files_none_of_view_none {c : Coll} {u : Nat} (h : c.view u = none) :
    c.pending.get? u = none ∧ c.disk.files.get? u = none := by
  rw [view_eq] at h
  cases hp : c.pending.get? u with
  | some o =>
    rw [hp] at h
    cases h
  | none =>
    rw [hp] at h
    exact ⟨rfl, h⟩

theorem view_put_pending {c c' : Coll} {o : Obj} (hp : c'.pending = c.pending.put o)
    (hf : c'.disk.files = c.disk.files) : c'.view = updView c.view o.uuid (some o) := by
  funext w
  rw [view_eq, hp, hf, OMap.get?_put, updView_apply, view_eq]
  by_cases hw : w = o.uuid
  · rw [if_pos hw, if_pos hw]
  · rw [if_neg hw, if_neg hw]

theorem view_put_files {c c' : Coll} {o : Obj} (hp' : c'.pending = []) (hp : c.pending = [])
    (hf : c'.disk.files = c.disk.files.put o) : c'.view = updView c.view o.uuid (some o) := by
  funext w
  rw [view_nopend hp', hf, OMap.get?_put, updView_apply, view_nopend hp]

theorem view_erase {c c' : Coll} {u : Nat} (hp : c'.pending = c.pending.erase u)
    (hf : c'.disk.files = c.disk.files.erase u) : c'.view = updView c.view u none := by
  funext w
  rw [view_eq, hp, hf, OMap.get?_erase, OMap.get?_erase, updView_apply, view_eq]
  by_cases hw : w = u
  · rw [if_pos hw, if_pos hw, if_pos hw]
  · rw [if_neg hw, if_neg hw, if_neg hw]

/-! ### what `Control` answers -/

theorem any_not_eq_false {α} (a : List α) (p : α → Bool) :
    a.any (fun u => !p u) = false ↔ ∀ u, u ∈ a → p u = true := by
  simp only [List.any_eq_false, Bool.not_eq_true', Bool.not_eq_false]

theorem any_not_contains_eq_false (a b : List Nat) :
    a.any (fun u => !(b.contains u)) = false ↔ ∀ u, u ∈ a → u ∈ b := by
  simp only [any_not_eq_false, List.contains_iff_mem]

theorem controlLoaded_spec (live : List (String × String)) (d : Disk) (l : Loaded) :
    controlLoaded live d l =
      if descsCompatFields l.descs live = false then .err .structChanged
      else if l.index.control = true ∧ (∀ u, u ∈ d.files.keys → u ∈ l.index.uuids) ∧
          (∀ u, u ∈ l.index.uuids → d.files.has u = true) then .ok ()
      else .err .corrupted := by
  -- the two `∀`-clauses become the Boolean `any`s that `controlLoaded` tests; then both sides compute
  simp only [← any_not_contains_eq_false, ← any_not_eq_false]
  unfold controlLoaded
  cases descsCompatFields l.descs live
  · rfl
  · cases l.index.control
    · rfl
    · cases d.files.keys.any fun u => !(l.index.uuids.contains u)
      · cases l.index.uuids.any fun u => !(d.files.has u) <;> rfl
      · rfl

theorem controlLoaded_changed {live : List (String × String)} {d : Disk} {l : Loaded}
    (h : descsCompatFields l.descs live = false) : controlLoaded live d l = .err .structChanged := by
  rw [controlLoaded_spec, if_pos h]

theorem controlLoaded_iff (live : List (String × String)) (d : Disk) (l : Loaded) :
    controlLoaded live d l = .ok () ↔
      descsCompatFields l.descs live = true ∧ l.index.control = true ∧
      (∀ u, u ∈ d.files.keys → u ∈ l.index.uuids) ∧ (∀ u, u ∈ l.index.uuids → d.files.has u = true) := by
  cases hk : descsCompatFields l.descs live with
  | false =>
    rw [controlLoaded_changed hk]
    exact ⟨nofun, fun x => nomatch x.1⟩
  | true =>
    rw [controlLoaded_spec, hk, if_neg nofun]
    split
    · next p => exact ⟨fun _ => ⟨rfl, p⟩, fun _ => rfl⟩
    · next np => exact ⟨nofun, fun x => absurd x.2 np⟩

theorem controlLoaded_corrupted_iff (live : List (String × String)) (d : Disk) (l : Loaded) :
    controlLoaded live d l = .err .corrupted ↔
      descsCompatFields l.descs live = true ∧
      ¬ (l.index.control = true ∧ (∀ u, u ∈ d.files.keys → u ∈ l.index.uuids) ∧
         (∀ u, u ∈ l.index.uuids → d.files.has u = true)) := by
  cases hk : descsCompatFields l.descs live with
  | false =>
    rw [controlLoaded_changed hk]
    exact ⟨nofun, fun x => nomatch x.1⟩
  | true =>
    rw [controlLoaded_spec, hk, if_neg nofun]
    split
    · next p => exact ⟨nofun, fun x => absurd p x.2⟩
    · next np => exact ⟨fun _ => ⟨rfl, np⟩, fun _ => rfl⟩

theorem controlLoaded_cases (live : List (String × String)) (d : Disk) (l : Loaded) :
    controlLoaded live d l = .ok () ∨ controlLoaded live d l = .err .corrupted ∨
    (controlLoaded live d l = .err .structChanged ∧ descsCompatFields l.descs live = false) := by
  cases hk : descsCompatFields l.descs live with
  | false => exact Or.inr (Or.inr ⟨controlLoaded_changed hk, rfl⟩)
  | true =>
    rw [controlLoaded_spec, hk, if_neg nofun]
    split
    · exact Or.inl rfl
    · exact Or.inr (Or.inl rfl)

theorem control_ok_of {live : List (String × String)} {d : Disk} {l : Loaded}
    (hshape : descsCompatFields l.descs live = true) (hwf : l.index.WF)
    (hdom : ∀ u, u ∈ l.index.uuids ↔ (d.files.get? u).isSome = true) : controlLoaded live d l = .ok () := by
  rw [controlLoaded_iff]
  refine ⟨hshape, control_of_wf hwf, fun u hu => (hdom u).mpr ?_, fun u hu => ?_⟩
  · rwa [OMap.mem_keys_iff_has, OMap.has_iff_get?_isSome] at hu
  · rw [OMap.has_iff_get?_isSome]
    exact (hdom u).mp hu

/-! ### the schema access in any state of the handle -/

/-- what a load computes from `schema.json` -/
def SchemaImg.load (img : SchemaImg) : Loaded :=
  { descs := img.descs, settings := img.settings, index := img.index.reload }

theorem schema_cached {c : Coll} {l : Loaded} (hm : c.mem = some l) :
    c.schema = (c.setMem (startFlusher l), .ok (startFlusher l)) := by
  unfold Coll.schema
  rw [hm]
  rfl

theorem schema_missing {c : Coll} (hm : c.mem = none) (hd : c.disk.schema = none) :
    c.schema = (c, .err .notFound) := by
  unfold Coll.schema
  rw [hm]
  simp only [hd]

theorem schema_load_eq {c : Coll} {img : SchemaImg} (hm : c.mem = none) (hd : c.disk.schema = some img) :
    c.schema =
      match controlLoaded c.live c.disk img.load with
      | .ok () => (c.setMem (startFlusher img.load), .ok (startFlusher img.load))
      | .err .corrupted => (c.setMem (startFlusher img.load), .err .corrupted)
      | .err e => (c, .err e)
      | .panic => (c, .panic) := by
  unfold Coll.schema
  rw [hm]
  simp only [hd]
  rfl

theorem schema_load_ok {c : Coll} {img : SchemaImg} (hm : c.mem = none) (hd : c.disk.schema = some img)
    (hc : controlLoaded c.live c.disk img.load = .ok ()) :
    c.schema = ({ c with mem := some (startFlusher img.load) }, .ok (startFlusher img.load)) := by
  rw [schema_load_eq hm hd, hc]
  rfl

theorem schema_load_corrupted {c : Coll} {img : SchemaImg} (hm : c.mem = none) (hd : c.disk.schema = some img)
    (hc : controlLoaded c.live c.disk img.load = .err .corrupted) :
    c.schema = ({ c with mem := some (startFlusher img.load) }, .err .corrupted) := by
  rw [schema_load_eq hm hd, hc]
  rfl

/-- C17: loading a schema whose descriptors do not match the live struct is refused, and the handle
    is returned UNCHANGED (nothing cached, no file touched, nothing logged) -/
theorem load_refused_if_changed {c : Coll} {img : SchemaImg} (hm : c.mem = none) (hd : c.disk.schema = some img)
    (hc : descsCompatFields img.descs c.live = false) : c.schema = (c, .err .structChanged) := by
  rw [schema_load_eq hm hd, controlLoaded_changed (l := img.load) hc]

/-- `db.schema` in any state of the handle: it answers a schema and caches it, its flusher flag
    settled; or (new handle only) finds the index corrupted and caches the schema all the same; or
    finds no schema, or another struct, and changes nothing -/
theorem schema_outcome (c : Coll) :
    (∃ l, startFlusher l = l ∧ c.schema = (c.setMem l, .ok l)) ∨
    (∃ l, startFlusher l = l ∧ c.mem = none ∧ c.schema = (c.setMem l, .err .corrupted)) ∨
    (c.mem = none ∧ (c.schema = (c, .err .notFound) ∨ c.schema = (c, .err .structChanged))) := by
  cases hm : c.mem with
  | some l => exact Or.inl ⟨_, startFlusher_idem l, schema_cached hm⟩
  | none =>
    cases hd : c.disk.schema with
    | none => exact Or.inr (Or.inr ⟨rfl, Or.inl (schema_missing hm hd)⟩)
    | some img =>
      rw [schema_load_eq hm hd]
      rcases controlLoaded_cases c.live c.disk img.load with h | h | ⟨h, _⟩ <;> rw [h]
      · exact Or.inl ⟨_, startFlusher_idem _, rfl⟩
      · exact Or.inr (Or.inl ⟨_, startFlusher_idem _, rfl, rfl⟩)
      · exact Or.inr (Or.inr ⟨rfl, Or.inr rfl⟩)

theorem schema_ok_mem {c c' : Coll} {l : Loaded} (h : c.schema = (c', .ok l)) : c'.mem = some l := by
  rcases schema_outcome c with ⟨_, _, h'⟩ | ⟨_, _, _, h'⟩ | ⟨_, h' | h'⟩ <;> cases h'.symm.trans h
  rfl

theorem schema_mem_some {c : Coll} {l : Loaded} (h : (c.schema).1.mem = some l) :
    startFlusher l = l ∧ ((c.schema).2 = .ok l ∨ (c.schema).2 = .err .corrupted) := by
  rcases schema_outcome c with ⟨l', hf, e⟩ | ⟨l', hf, _, e⟩ | ⟨hm, e | e⟩ <;> rw [e] at h ⊢
  · cases h
    exact ⟨hf, Or.inl rfl⟩
  · cases h
    exact ⟨hf, Or.inr rfl⟩
  · rw [hm] at h
    cases h
  · rw [hm] at h
    cases h

theorem schema_of_mem {c : Coll} {l : Loaded} (hm : c.mem = some l) (hf : startFlusher l = l) :
    c.schema = (c, .ok l) := by
  rw [schema_cached hm, hf, Coll.setMem, ← hm]

theorem schema_cases (c : Coll) :
    (∃ l, (c.schema).2 = .ok l) ∨ (c.schema).2 = .err .notFound ∨ (c.schema).2 = .err .structChanged ∨
    (c.schema).2 = .err .corrupted := by
  rcases schema_outcome c with ⟨_, _, h⟩ | ⟨_, _, _, h⟩ | ⟨_, h | h⟩ <;> rw [h]
  · exact Or.inl ⟨_, rfl⟩
  · exact Or.inr (Or.inr (Or.inr rfl))
  · exact Or.inr (Or.inl rfl)
  · exact Or.inr (Or.inr (Or.inl rfl))

theorem schema_no_panic (c : Coll) : (c.schema).2 ≠ .panic := by
  rcases schema_cases c with ⟨l, h⟩ | h | h | h <;> (rw [h]; exact fun h => nomatch h)

/-! ### `SameDir`, and `get` in any state of the handle -/

/-- `c'` differs from `c` in the handle's memory only: the cached schema and the object cache -/
structure SameDir (c c' : Coll) : Prop where
  disk : c'.disk = c.disk
  log : c'.log = c.log
  live : c'.live = c.live
  pending : c'.pending = c.pending

theorem SameDir.refl (c : Coll) : SameDir c c := ⟨rfl, rfl, rfl, rfl⟩

theorem SameDir.trans {a b c : Coll} (h : SameDir a b) (h' : SameDir b c) : SameDir a c :=
  ⟨h'.disk.trans h.disk, h'.log.trans h.log, h'.live.trans h.live, h'.pending.trans h.pending⟩

theorem SameDir.setMem {c c' : Coll} (h : SameDir c c') (l : Loaded) : SameDir c (c'.setMem l) :=
  ⟨h.disk, h.log, h.live, h.pending⟩

theorem schema_sameDir (c : Coll) : SameDir c (c.schema).1 := by
  rcases schema_outcome c with ⟨_, _, e⟩ | ⟨_, _, _, e⟩ | ⟨_, e | e⟩ <;> rw [e] <;> exact ⟨rfl, rfl, rfl, rfl⟩

theorem schema_cache (c : Coll) : (c.schema).1.cache = c.cache := by
  rcases schema_outcome c with ⟨_, _, e⟩ | ⟨_, _, _, e⟩ | ⟨_, e | e⟩ <;> rw [e] <;> rfl

theorem get_of_schema {c c1 : Coll} {l : Loaded} (h : c.schema = (c1, .ok l)) (u : Nat) :
    c.get u =
      match (if l.settings.mustCache then c1.cache.get? u else none) with
      | some o => (c1, .ok o)
      | none =>
        match c1.disk.files.get? u with
        | some o => ((if l.settings.mustCache then { c1 with cache := c1.cache.put o } else c1), .ok o)
        | none => (c1, .err .notFound) := by
  unfold Coll.get
  rw [h]
  rfl

theorem get_sameDir (c : Coll) (u : Nat) : SameDir c (c.get u).1 := by
  have hs := schema_sameDir c
  unfold Coll.get
  -- every branch answers the state `c1` of the schema access, at most with `cache` replaced, which `SameDir` does not read
  generalize c.schema = p at hs ⊢
  obtain ⟨c1, r⟩ := p
  cases r with
  | ok l =>
    dsimp only
    split
    · exact hs
    · split
      · split
        · exact ⟨hs.disk, hs.log, hs.live, hs.pending⟩
        · exact hs
      · exact hs
  | err e => exact hs
  | panic => exact hs

theorem get_of_mem {c : Coll} (hm : c.mem.isSome = true) (u : Nat) :
    (c.get u).1.mem.isSome = true ∧ ((∃ o, (c.get u).2 = .ok o) ∨ (c.get u).2 = .err .notFound) := by
  obtain ⟨l0, hl⟩ := Option.isSome_iff_exists.mp hm
  rw [get_of_schema (schema_cached hl)]
  split
  · exact ⟨rfl, Or.inl ⟨_, rfl⟩⟩
  · split
    · exact ⟨by split <;> rfl, Or.inl ⟨_, rfl⟩⟩
    · exact ⟨rfl, Or.inr rfl⟩

end Sod
