/-
  FieldIndex.lean — on a descending field index every search of `field_index.go`
  is the corresponding `List.filter`; insert / delete / constrain / control facts.
-/
import SodModel.FieldIndex
import Proofs.ValOrder
namespace Sod

/-! ### list facts -/

theorem nodup_of_map {α β} {f : α → β} {l : List α} (hn : (l.map f).Nodup) : l.Nodup :=
  List.Pairwise.of_map f (fun _ _ h hab => h (congrArg f hab)) hn

theorem inj_of_nodup_map {α β} (f : α → β) (l : List α) (hn : (l.map f).Nodup) {x y : α}
    (hx : x ∈ l) (hy : y ∈ l) (hxy : f x = f y) : x = y := by
  have hp : l.Pairwise (fun a b => f a ≠ f b) := List.pairwise_map.mp hn
  exact List.Pairwise.forall_of_forall_of_flip (R := fun a b => f a = f b → a = b)
    (fun _ _ _ => rfl) (hp.imp fun h e => absurd e h) (hp.imp fun h e => absurd e.symm h) hx hy hxy

theorem find?_key_of_mem {α β} [DecidableEq β] {f : α → β} {l : List α} (hn : (l.map f).Nodup)
    {p : α} (hp : p ∈ l) : l.find? (fun q => f q == f p) = some p := by
  cases h : l.find? (fun q => f q == f p) with
  | none => exact absurd (beq_self_eq_true _) (List.find?_eq_none.mp h p hp)
  | some q =>
    rw [inj_of_nodup_map f l hn (List.mem_of_find?_eq_some h) hp (eq_of_beq (List.find?_some h :))]

/-! ### a predicate that holds on a prefix of the list

`Desc` makes `¬ · < k` and `· > k` hold on a prefix of the index and nowhere after it.  For such
a predicate `P` the boundary is `l.countP P`, position `p` satisfies `P` iff `p < l.countP P`,
and `take`/`drop` at the boundary are `filter P`/`filter (¬P)`.  Every comparison search of the Go
code computes one or both of these two boundaries. -/

/-- the index invariant: values are in descending order (equal values allowed) -/
def Desc (l : FIdx) : Prop := l.Pairwise (fun a b => Val.lt a.1 b.1 = false)

theorem take_drop_countP {α} {P : α → Bool} {l : List α}
    (h : l.Pairwise (fun a b => P b = true → P a = true)) :
    l.take (l.countP P) = l.filter P ∧ l.drop (l.countP P) = l.filter (fun a => !P a) := by
  induction l with
  | nil => exact ⟨rfl, rfl⟩
  | cons a t ih =>
    obtain ⟨ha, ht⟩ := List.pairwise_cons.mp h
    cases hP : P a with
    | true =>
      -- `a` is counted, taken, and kept by `filter P` alone
      rw [List.countP_cons_of_pos hP, List.take_succ_cons, List.drop_succ_cons, List.filter_cons_of_pos hP,
        List.filter_cons, hP, (ih ht).1, (ih ht).2]
      exact ⟨rfl, rfl⟩
    | false =>
      -- nothing after `a` satisfies `P` either: the count is 0, `filter P` is empty, `filter (¬P)` is everything
      have hf : ∀ b ∈ t, ¬ P b = true := fun b hb hb' => by rw [ha b hb hb'] at hP; cases hP
      have hf' : ∀ b ∈ t, (!P b) = true := fun b hb => by
        simpa only [Bool.not_eq_eq_eq_not, Bool.not_true, Bool.not_eq_true] using hf b hb
      rw [List.countP_cons_of_neg (ne_true_of_eq_false hP), List.countP_eq_zero.mpr hf, List.take_zero, List.drop_zero,
        List.filter_cons_of_neg (ne_true_of_eq_false hP), List.filter_eq_nil_iff.mpr hf, List.filter_cons, hP,
        List.filter_eq_self.mpr hf']
      exact ⟨rfl, rfl⟩

theorem at_iff_lt_countP {Q : Val → Bool} {l : FIdx}
    (h : l.Pairwise (fun a b => Q b.1 = true → Q a.1 = true)) {p : Nat} (hp : p < l.length) :
    Q (l.at p) = true ↔ p < l.countP (fun e => Q e.1) := by
  obtain ⟨ht, hd⟩ := take_drop_countP (P := fun e : Entry => Q e.1) h
  rw [FIdx.at, ← List.getElem_eq_getD (h := hp)]
  constructor
  · intro hq
    apply Nat.lt_of_not_le
    intro hle
    have : l[p] ∈ l.drop (l.countP (fun e => Q e.1)) :=
      List.drop_subset_drop_left l hle (List.drop_eq_getElem_cons hp ▸ List.mem_cons_self)
    rw [hd, List.mem_filter, hq] at this
    exact absurd this.2 (by simp only [Bool.not_true, Bool.false_eq_true, not_false_eq_true])
  · intro hlt
    have : l[p] ∈ l.take (l.countP (fun e => Q e.1)) :=
      List.mem_take_iff_getElem.mpr ⟨p, Nat.lt_min.mpr ⟨hlt, hp⟩, rfl⟩
    rw [ht] at this
    exact (List.mem_filter.mp this).2

theorem Desc.ge {l : FIdx} (h : Desc l) (k : Val) :
    l.Pairwise (fun a b => (!Val.lt b.1 k) = true → (!Val.lt a.1 k) = true) :=
  h.imp fun hab hb => by
    rw [Bool.not_eq_true'] at hb ⊢
    exact Val.lt_ntrans hab hb

theorem Desc.gt {l : FIdx} (h : Desc l) (k : Val) :
    l.Pairwise (fun a b => Val.gt b.1 k = true → Val.gt a.1 k = true) :=
  h.imp fun {a b} hab hb => by
    rw [Val.gt_iff] at hb ⊢
    cases hka : Val.lt k a.1 with
    | true => rfl
    | false =>
      rw [Val.lt_ntrans hka hab] at hb
      cases hb

/-! ### the bisection and the two backward scans find the boundaries -/

/-- the pivot of `insertionIndexRec` lies below `j`: a window at least two wide is wider than
    its half rounded up -/
theorem pivot_lt {i j : Nat} (h1 : ¬ j - i = 1) (h2 : ¬ j ≤ i) : (j + 1 - i) / 2 + i < j := by
  have hd : 1 < j - i := Nat.lt_of_le_of_ne (Nat.sub_pos_of_lt (Nat.lt_of_not_le h2)) (Ne.symm h1)
  rw [Nat.sub_add_comm (Nat.le_of_not_le h2)]
  exact Nat.add_lt_of_lt_sub (Nat.div_lt_of_lt_mul (by rw [Nat.two_mul]; exact Nat.add_lt_add_left hd _))

theorem insRec_eq (l : FIdx) (k : Val) (h : Desc l) (i j : Nat) :
    i ≤ l.countP (fun e => !Val.lt e.1 k) → l.countP (fun e => !Val.lt e.1 k) ≤ j → j ≤ l.length →
      insRec l k i j = l.countP (fun e => !Val.lt e.1 k) := by
  have hat : ∀ p, p < l.length → (¬ Val.lt (l.at p) k = true ↔ p < l.countP (fun e => !Val.lt e.1 k)) :=
    fun p hp => by
      rw [← at_iff_lt_countP (Q := fun v => !Val.lt v k) (h.ge k) hp, Bool.not_eq_true', Bool.not_eq_true]
  generalize l.countP (fun e => !Val.lt e.1 k) = N at hat ⊢
  have hlo : ∀ {p}, p < l.length → Val.lt (l.at p) k = true → N ≤ p := fun hp hlt =>
    Nat.le_of_not_lt (mt (hat _ hp).mpr (not_not_intro hlt))
  have hhi : ∀ {p}, p < l.length → ¬ Val.lt (l.at p) k = true → p < N := fun hp hlt => (hat _ hp).mp hlt
  -- the boundary `N` stays inside the window `[i, j]`.  The cases are the branches of `def insRec` (those
  -- of the Go code), numbered in its order, so reordering it renumbers them: 1 empty, 2/3 singleton,
  -- 4/5 `j - i = 1`, 6 `j ≤ i`, 7/8 pivot (of a pair the first is the probe `< k`, the second not)
  fun_induction insRec l k i j with
  | case1 i j h0 =>
    intro _ hN hj
    exact (Nat.le_zero.mp (Nat.le_trans hN (h0 ▸ hj))).symm
  | case2 i j _ h1 hlt =>
    intro _ _ _
    exact (Nat.le_zero.mp (hlo (h1 ▸ Nat.one_pos) hlt)).symm
  | case3 i j _ h1 hlt =>
    intro _ hN hj
    exact Nat.le_antisymm (hhi (h1 ▸ Nat.one_pos) hlt) (Nat.le_trans hN (h1 ▸ hj))
  | case4 i j _ _ hd hlt =>
    intro hi _ hj
    exact Nat.le_antisymm hi (hlo (Nat.lt_of_lt_of_le (Nat.lt_of_sub_eq_succ hd) hj) hlt)
  | case5 i j _ _ hd hlt =>
    intro _ hN hj
    have := hhi (Nat.lt_of_lt_of_le (Nat.lt_of_sub_eq_succ hd) hj) hlt
    omega
  | case6 i j _ _ _ hji =>
    intro hi hN _
    exact Nat.le_antisymm hi (Nat.le_trans hN hji)
  | case7 i j _ _ h2 h3 pv hlt ih =>
    intro hi _ hj
    have hp := pivot_lt h2 h3
    exact ih hi (hlo (Nat.lt_of_lt_of_le hp hj) hlt) (Nat.le_trans (Nat.le_of_lt hp) hj)
  | case8 i j _ _ h2 h3 pv hlt ih =>
    intro _ hN hj
    exact ih (Nat.le_of_lt (hhi (Nat.lt_of_lt_of_le (pivot_lt h2 h3) hj) hlt)) hN hj

theorem insertionIndex_eq (l : FIdx) (k : Val) (h : Desc l) :
    insertionIndex l k = l.countP (fun e => !Val.lt e.1 k) :=
  insRec_eq l k h 0 _ (Nat.zero_le _) List.countP_le_length (Nat.le_refl _)

theorem backScan_eq {f : Nat → Bool} {N : Nat} {scan : Nat → Nat} (h0 : scan 0 = 0)
    (hs : ∀ c, scan (c + 1) = if f c then c + 1 else scan c) :
    ∀ s, N ≤ s → (∀ c, c < s → (f c = true ↔ c < N)) → scan s = N := by
  intro s
  induction s with
  | zero =>
    intro hN _
    rw [h0, Nat.le_zero.mp hN]
  | succ s ih =>
    intro hN hf
    rw [hs]
    split
    next h => exact Nat.le_antisymm ((hf s (Nat.lt_succ_self s)).mp h) hN
    next h =>
      exact ih (Nat.le_of_not_lt (mt (hf s (Nat.lt_succ_self s)).mpr h))
        fun c hc => hf c (Nat.lt_succ_of_lt hc)

theorem gtScan_eq (l : FIdx) (k : Val) (h : Desc l) (s : Nat)
    (h1 : l.countP (fun e => Val.gt e.1 k) ≤ s) (h2 : s ≤ l.length) :
    gtScan l k s = l.countP (fun e => Val.gt e.1 k) :=
  backScan_eq (f := fun c => Val.gt (l.at c) k) rfl (fun _ => rfl) s h1 fun _ hc =>
    at_iff_lt_countP (Q := fun v => Val.gt v k) (h.gt k) (Nat.lt_of_lt_of_le hc h2)

theorem eqRunBack_eq (l : FIdx) (k : Val) (h : Desc l) (s : Nat)
    (h1 : l.countP (fun e => Val.gt e.1 k) ≤ s) (h2 : s ≤ l.countP (fun e => !Val.lt e.1 k)) :
    eqRunBack l k s = l.countP (fun e => Val.gt e.1 k) := by
  refine backScan_eq (f := fun c => !Val.eq (l.at c) k) rfl (fun c => ?_) s h1 fun c hc => ?_
  · show (if Val.eq (l.at c) k = true then eqRunBack l k c else c + 1) = _
    cases Val.eq (l.at c) k <;> rfl
  · -- below `s` nothing is `< k`, so "not equal" is "greater"
    have hcl : c < l.length := Nat.lt_of_lt_of_le hc (Nat.le_trans h2 List.countP_le_length)
    have hge := (at_iff_lt_countP (Q := fun v => !Val.lt v k) (h.ge k) hcl).mpr (Nat.lt_of_lt_of_le hc h2)
    rw [← at_iff_lt_countP (Q := fun v => Val.gt v k) (h.gt k) hcl, eq_eq_ge_not_gt, hge]
    simp only [Bool.and_true, Bool.not_not]

theorem gtCount_le_geCount (l : FIdx) (k : Val) :
    l.countP (fun e => Val.gt e.1 k) ≤ l.countP (fun e => !Val.lt e.1 k) :=
  List.countP_mono_left fun _ _ => gt_imp_not_lt

theorem rangeEqual_eq (l : FIdx) (k : Val) (h : Desc l) :
    rangeEqual l k = (l.countP (fun e => Val.gt e.1 k), l.countP (fun e => !Val.lt e.1 k)) := by
  rw [rangeEqual, insertionIndex_eq l k h,
    eqRunBack_eq l k h _ (gtCount_le_geCount l k) (Nat.le_refl _)]

theorem gtScan_gtStart (l : FIdx) (k : Val) (h : Desc l) :
    gtScan l k (gtStart l k) = l.countP (fun e => Val.gt e.1 k) :=
  gtScan_eq l k h _
    (Nat.le_min.mpr ⟨insertionIndex_eq l k h ▸ Nat.le_succ_of_le (gtCount_le_geCount l k), List.countP_le_length⟩)
    (Nat.min_le_right _ _)

/-! ### searches -/

theorem take_insertionIndex (l : FIdx) (k : Val) (h : Desc l) :
    l.take (insertionIndex l k) = l.filter (fun e => !Val.lt e.1 k) := by
  rw [insertionIndex_eq l k h, (take_drop_countP (h.ge k)).1]

theorem drop_insertionIndex (l : FIdx) (k : Val) (h : Desc l) :
    l.drop (insertionIndex l k) = l.filter (fun e => Val.lt e.1 k) := by
  rw [insertionIndex_eq l k h, (take_drop_countP (h.ge k)).2]
  simp only [Bool.not_not]

theorem insertionIndex_take_drop (l : FIdx) (k : Val) (h : Desc l) :
    (∀ e ∈ l.take (insertionIndex l k), Val.lt e.1 k = false) ∧
    (∀ e ∈ l.drop (insertionIndex l k), Val.lt e.1 k = true) := by
  rw [take_insertionIndex l k h, drop_insertionIndex l k h]
  exact ⟨fun e he => (Bool.not_eq_true' _).mp (List.mem_filter.mp he).2, fun e he => (List.mem_filter.mp he).2⟩

theorem searchGe_filter (l : FIdx) (k : Val) (h : Desc l) :
    searchGe l k = l.filter (fun e => Val.gt e.1 k || Val.eq e.1 k) := by
  simp only [ge_eq_not_lt, ← take_insertionIndex l k h, searchGe]
  split
  · next h0 => rw [h0, List.take_zero]
  · rfl

theorem searchLt_filter (l : FIdx) (k : Val) (h : Desc l) :
    searchLt l k = l.filter (fun e => Val.lt e.1 k) := by
  rw [← drop_insertionIndex l k h, searchLt]
  split
  · rw [List.drop_eq_nil_of_le (by omega)]
  · rfl

theorem searchGt_filter (l : FIdx) (k : Val) (h : Desc l) :
    searchGt l k = l.filter (fun e => Val.gt e.1 k) := by
  rw [searchGt, gtScan_gtStart l k h, (take_drop_countP (h.gt k)).1]

theorem searchLe_filter (l : FIdx) (k : Val) (h : Desc l) :
    searchLe l k = l.filter (fun e => Val.lt e.1 k || Val.eq e.1 k) := by
  simp only [le_eq_not_gt]
  rw [searchLe, gtScan_gtStart l k h, (take_drop_countP (h.gt k)).2]

theorem searchEq_filter (l : FIdx) (k : Val) (h : Desc l) :
    searchEq l k = l.filter (fun e => Val.eq e.1 k) := by
  -- the entries `≥ k`, and among them (same boundary) those not `> k`
  have hc : (l.filter (fun e => !Val.lt e.1 k)).countP (fun e => Val.gt e.1 k) =
      l.countP (fun e => Val.gt e.1 k) := by
    rw [List.countP_filter]
    exact List.countP_congr fun e _ => Bool.and_eq_true_iff.trans (and_iff_left_of_imp gt_imp_not_lt)
  simp only [searchEq, rangeEqual_eq l k h, eq_eq_ge_not_gt]
  rw [(take_drop_countP (h.ge k)).1, ← hc, (take_drop_countP ((h.gt k).filter _)).2,
    List.filter_filter]

theorem searchNe_filter (l : FIdx) (k : Val) (h : Desc l) :
    searchNe l k = l.filter (fun e => !Val.eq e.1 k) := by
  -- split the index at the boundary of `≥ k`: of the first part the entries `> k` are kept, and the rest,
  -- all `< k`, whole
  obtain ⟨ht, hd⟩ := take_drop_countP (h.ge k)
  conv => rhs; rw [← List.take_append_drop (l.countP (fun e => !Val.lt e.1 k)) l, ht, hd]
  simp only [searchNe, rangeEqual_eq l k h]
  rw [(take_drop_countP (h.gt k)).1, hd, List.filter_append, List.filter_filter, List.filter_filter]
  congr 1 <;> apply List.filter_congr <;> intro e _
  · rw [Val.gt, Bool.and_comm]
  · cases hx : Val.lt e.1 k <;>
      simp only [Bool.not_false, Bool.not_true, Bool.and_false, hx, lt_imp_not_eq, Bool.and_self]

theorem searchRe_filter (m : Matcher) (l : FIdx) (h : ∀ e ∈ l, e.1.tag = Tag.str) :
    searchRe m l = l.filter (fun e => match e.1 with | .str s => m s | _ => false) := by
  induction l with
  | nil => rfl
  | cons a t ih =>
    have ha := h a List.mem_cons_self
    obtain ⟨v, o⟩ := a
    cases v with
    | str s =>
      show (if m s = true then (Val.str s, o) :: searchRe m t else searchRe m t) = _
      rw [ih fun e he => h e (List.mem_cons_of_mem _ he), List.filter_cons]
    | i64 _ => cases ha
    | u64 _ => cases ha
    | f64 _ => cases ha

/-! ### insert -/

theorem insert_eq_split (l : FIdx) (e : Entry) (h : Desc l) :
    l.insert e = l.filter (fun x => !Val.lt x.1 e.1) ++ e :: l.filter (fun x => Val.lt x.1 e.1) := by
  rw [← take_insertionIndex l e.1 h, ← drop_insertionIndex l e.1 h, FIdx.insert]
  split
  · rw [List.take_of_length_le (by omega), List.drop_eq_nil_of_le (by omega)]
  · rfl

theorem insert_desc (l : FIdx) (e : Entry) (h : Desc l) : Desc (l.insert e) := by
  rw [insert_eq_split l e h, Desc, List.pairwise_append, List.pairwise_cons]
  refine ⟨h.filter _, ⟨fun y hy => Val.lt_asymm (List.mem_filter.mp hy).2, h.filter _⟩, ?_⟩
  intro a ha b hb
  have ha' : Val.lt a.1 e.1 = false := (Bool.not_eq_true' _).mp (List.mem_filter.mp ha).2
  rcases List.mem_cons.mp hb with rfl | hb
  · exact ha'
  · cases hab : Val.lt a.1 b.1 with
    | false => rfl
    | true =>
      rw [Val.lt_trans hab (List.mem_filter.mp hb).2] at ha'
      cases ha'

/-- wherever the bisection lands (the index need not be ordered), `insert` splices `e` into `l` -/
theorem insert_perm (l : FIdx) (e : Entry) : (l.insert e).Perm (e :: l) := by
  rw [FIdx.insert]
  split
  · exact List.perm_append_singleton e l
  · exact List.perm_middle.trans (List.Perm.cons e (List.Perm.of_eq (List.take_append_drop _ l)))

theorem mem_insert_iff (l : FIdx) (e x : Entry) : x ∈ l.insert e ↔ x = e ∨ x ∈ l := by
  rw [(insert_perm l e).mem_iff, List.mem_cons]

/-! ### delete -/

theorem byOid_eq_some_iff (l : FIdx) (hn : (l.map (·.2)).Nodup) (o : Nat) (e : Entry) :
    l.byOid o = some e ↔ e ∈ l ∧ e.2 = o :=
  ⟨fun hf => ⟨List.mem_of_find?_eq_some hf, eq_of_beq (List.find?_some hf :)⟩,
    fun ⟨hel, heo⟩ => heo ▸ find?_key_of_mem (f := fun x : Entry => x.2) hn hel⟩

theorem erase_eq_filter_oid {l : FIdx} (hn : (l.map (·.2)).Nodup) {e : Entry} (he : e ∈ l) :
    l.erase e = l.filter (fun x => x.2 != e.2) := by
  rw [(nodup_of_map hn).erase_eq_filter]
  apply List.filter_congr
  intro x hx
  rw [Bool.eq_iff_iff, bne_iff_ne, bne_iff_ne]
  exact ⟨fun h h2 => h (inj_of_nodup_map (·.2) l hn hx he h2), fun h h2 => h (h2 ▸ rfl)⟩

theorem keyScan_some {l : FIdx} {oid hi s fuel i : Nat} (h : keyScan l oid hi s fuel = some i) :
    i < hi ∧ (l.getD i Entry.dflt).2 = oid := by
  fun_induction keyScan l oid hi s fuel with
  | case1 => cases h
  | case2 s fuel hlt hm =>
    cases h
    exact ⟨hlt, eq_of_beq hm⟩
  | case3 s fuel _ _ ih => exact ih h
  | case4 => cases h

theorem delete_eq_filter (l : FIdx) (oid : Nat) (h : Desc l) (hn : (l.map (·.2)).Nodup) :
    l.delete oid = l.filter (fun e => e.2 != oid) := by
  unfold FIdx.delete
  cases hb : l.byOid oid with
  | none =>
    refine (List.filter_eq_self.mpr fun x hx => ?_).symm
    exact bne_iff_ne.mpr fun e => List.find?_eq_none.mp hb x hx (beq_iff_eq.mpr e)
  | some e =>
    obtain ⟨hel, rfl⟩ := (byOid_eq_some_iff l hn _ e).mp hb
    rw [← erase_eq_filter_oid hn hel]
    show (match searchKey l e with | some i => l.eraseIdx i | none => l.erase e) = _
    cases hk : searchKey l e with
    | none => rfl
    | some i =>
      -- wherever the bisection and the scan stop, the position is inside the list (`Desc` bounds
      -- the range) and holds the oid, so it holds `e`: both branches of the Go code erase `e`
      simp only [searchKey, rangeEqual_eq l e.1 h] at hk
      obtain ⟨hi, hio⟩ := keyScan_some hk
      have hil : i < l.length := Nat.lt_of_lt_of_le hi List.countP_le_length
      rw [← List.getElem_eq_getD (h := hil)] at hio
      rw [← inj_of_nodup_map (·.2) l hn (List.getElem_mem hil) hel hio]
      exact (List.erase_eq_eraseIdx_of_idxOf ((nodup_of_map hn).idxOf_getElem i hil)).symm

theorem delete_none (l : FIdx) (oid : Nat) (hm : oid ∉ l.map (·.2)) : l.delete oid = l := by
  have : l.byOid oid = none :=
    List.find?_eq_none.mpr fun x hx hxo => hm (List.mem_map.mpr ⟨x, hx, eq_of_beq hxo⟩)
  rw [FIdx.delete, this]

/-! ### control -/

theorem control_iff (l : FIdx) : l.control = true ↔ Desc l := by
  induction l with
  | nil => exact iff_of_true rfl List.Pairwise.nil
  | cons a t ih =>
    cases t with
    | nil => exact iff_of_true rfl (List.pairwise_singleton _ _)
    | cons b rest =>
      -- `a = b ∨ b < a` is `¬ a < b`, and with the tail descending it holds against the whole tail
      have hab : (Val.eq a.1 b.1 || Val.lt b.1 a.1) = true ↔ Val.lt a.1 b.1 = false := by
        rw [Bool.or_comm, ← Bool.eq_iff_iff.mpr Val.gt_iff, ge_eq_not_lt, Bool.not_eq_true']
      show ((Val.eq a.1 b.1 || Val.lt b.1 a.1) && FIdx.control (b :: rest)) = true ↔ _
      rw [Bool.and_eq_true, ih, hab]
      unfold Desc
      rw [List.pairwise_cons (a := a)]
      refine and_congr_left fun h2 => ⟨fun hab x hx => ?_, fun h1 => h1 b List.mem_cons_self⟩
      rcases List.mem_cons.mp hx with rfl | hx
      · exact hab
      · exact Val.lt_ntrans hab ((List.pairwise_cons.mp h2).1 x hx)

/-! ### constrain -/

theorem constrain_fold (l : FIdx) (fs : FIdx) :
    ∀ (acc : FIdx), Desc acc →
      Desc (fs.foldl (fun acc fi => match l.byOid fi.2 with
                                    | some e => acc.insert e
                                    | none => acc) acc) ∧
      (fs.foldl (fun acc fi => match l.byOid fi.2 with
                               | some e => acc.insert e
                               | none => acc) acc).Perm
        (acc ++ fs.filterMap (fun f => l.byOid f.2)) := by
  induction fs with
  | nil =>
    intro acc h
    simp only [List.foldl_nil, h, List.filterMap_nil, List.append_nil, List.Perm.refl, and_self]
  | cons f fs ih =>
    intro acc h
    rw [List.foldl_cons, List.filterMap_cons]
    cases hb : l.byOid f.2 with
    | none => exact ih acc h
    | some e =>
      obtain ⟨d, p⟩ := ih (acc.insert e) (insert_desc acc e h)
      refine ⟨d, p.trans ?_⟩
      have h1 := (insert_perm acc e).append_right (fs.filterMap (fun f => l.byOid f.2))
      exact h1.trans (List.perm_middle (l₁ := acc)).symm

theorem constrain_desc (l fs : FIdx) : Desc (l.constrain fs) :=
  (constrain_fold l fs [] List.Pairwise.nil).1

theorem constrain_subset {l fs : FIdx} {e : Entry} (h : e ∈ l.constrain fs) : e ∈ l := by
  have hp := (constrain_fold l fs [] List.Pairwise.nil).2
  obtain ⟨f, _, hf⟩ := List.mem_filterMap.mp (hp.mem_iff.mp h)
  exact List.mem_of_find?_eq_some hf

theorem constrain_perm (l fs : FIdx) (hn : (l.map (·.2)).Nodup) (hf : (fs.map (·.2)).Nodup) :
    (l.constrain fs).Perm (l.filter (fun e => fs.any (fun f => f.2 == e.2))) := by
  refine ((List.nil_append _) ▸ (constrain_fold l fs [] List.Pairwise.nil).2).trans ?_
  -- both sides list, without repetition, the entries of `l` whose oid occurs in `fs`
  rw [List.perm_ext_iff_of_nodup ?_ ((nodup_of_map hn).filter _)]
  · intro e
    simp only [List.mem_filterMap, byOid_eq_some_iff l hn, List.mem_filter, List.any_eq_true, beq_iff_eq]
    exact ⟨fun ⟨f, hf, hel, h⟩ => ⟨hel, f, hf, h.symm⟩, fun ⟨hel, f, hf, h⟩ => ⟨f, hf, hel, h.symm⟩⟩
  · refine List.Pairwise.filterMap _ (fun a a' hne b hb b' hb' hbb' => hne ?_) (List.pairwise_map.mp hf)
    rw [← ((byOid_eq_some_iff l hn _ _).mp hb).2, ← ((byOid_eq_some_iff l hn _ _).mp hb').2, hbb']

/-! ### unique constraint -/

theorem satisfyUnique_iff (l : FIdx) (known : Option Nat) (v : Val) (h : Desc l)
    (hu : l.Pairwise (fun a b => a.1 ≠ b.1)) :
    l.satisfyUnique known v = true ↔ ∀ e ∈ l, e.1 = v → some e.2 = known := by
  have hF : ∀ e, e ∈ l.filter (fun e => Val.eq e.1 v) ↔ e ∈ l ∧ e.1 = v := fun e => by
    rw [List.mem_filter, Val.eq_iff]
  have hu' := hu.filter (fun e => Val.eq e.1 v)
  have hr : (∀ e ∈ l, e.1 = v → some e.2 = known) ↔
      ∀ e ∈ l.filter (fun e => Val.eq e.1 v), some e.2 = known := by
    simp only [hF, and_imp]
  rw [hr, FIdx.satisfyUnique, searchEq_filter l v h]
  generalize l.filter (fun e => Val.eq e.1 v) = F at hF hu'
  -- the entries with value `v`: none, one, or (excluded by `hu`) several
  rcases F with _ | ⟨x, _ | ⟨y, rest⟩⟩
  · exact iff_of_true rfl fun _ he => nomatch he
  · cases known with
    | none => exact iff_of_false nofun fun hall => nomatch hall x List.mem_cons_self
    | some oid => simp only [List.mem_singleton, forall_eq, beq_iff_eq, Option.some.injEq]
  · have hx := (hF x).mp List.mem_cons_self
    have hy := (hF y).mp (List.mem_cons_of_mem _ List.mem_cons_self)
    exact absurd (hx.2.trans hy.2.symm) ((List.pairwise_cons.mp hu').1 y List.mem_cons_self)

end Sod
