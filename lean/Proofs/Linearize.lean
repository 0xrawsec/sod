/-
  Linearize.lean — calls that run as ONE critical section of a readers/writer lock are
  linearizable (C08): every interleaving of their micro-steps gives each call the result, and the
  shared state the final value, of running the calls one at a time in the order in which they
  acquired the lock — an order that respects program order and real-time precedence.

  The shared state `S`, the thread-local state `L` and the result type `R` are arbitrary.

  The proof is an invariant (`Inv`) of the reachable states: the history is well formed (`HistOK`);
  when no writer is inside, the shared state is the one the sequential run of the calls acquired so
  far ends in; a writer inside is alone and its remaining micro-steps lead to that state; and every
  thread inside is going to return what the sequential run gives its call (`TInv`, and `CInv` for the
  call it is inside).  A step replaces one thread and appends at most one event: `TInv.frame` carries
  the other threads over, as `frame_order` when nothing is acquired and as `frame_acq` past an
  acquisition.
-/
import Proofs.ListSet
namespace Sod.Lin

inductive Mode | r | w
  deriving DecidableEq, Repr

/-- a micro-step of a call: it reads the shared state into the local state, or (writers only)
    updates the shared state from the local state -/
inductive Micro (S L : Type) where
  | read (f : S → L → L)
  | write (g : S → L → S)

structure Call (S L R : Type) where
  mode : Mode
  init : L
  steps : List (Micro S L)
  result : L → R

/-- a reader never writes -/
def Call.WF {S L R : Type} (c : Call S L R) : Prop :=
  c.mode = Mode.r → ∀ m ∈ c.steps, ∃ f, m = Micro.read f

def Micro.run {S L : Type} : Micro S L → S × L → S × L
  | .read f, (σ, l) => (σ, f σ l)
  | .write g, (σ, l) => (g σ l, l)

def runSteps {S L : Type} (ms : List (Micro S L)) (p : S × L) : S × L := ms.foldl (fun p m => m.run p) p

def Call.atomic {S L R : Type} (c : Call S L R) (σ : S) : S × R :=
  let p := runSteps c.steps (σ, c.init)
  (p.1, c.result p.2)

structure Thread (S L R : Type) where
  todo : List (Call S L R)
  /-- inside a call: the call, its local state, its remaining micro-steps -/
  cur : Option (Call S L R × L × List (Micro S L))
  /-- number of calls completed (index of the current / next call in the thread's program) -/
  pc : Nat

/-- identity of a call: (thread index, index in that thread's program) -/
abbrev CallId := Nat × Nat

inductive Event (R : Type) where
  | acq (c : CallId)
  | rel (c : CallId) (res : R)

structure State (S L R : Type) where
  σ : S
  threads : List (Thread S L R)
  /-- history, oldest first -/
  hist : List (Event R)

def inside {S L R : Type} (t : Thread S L R) : Bool := t.cur.isSome
def insideW {S L R : Type} (t : Thread S L R) : Bool :=
  match t.cur with
  | some (c, _, _) => c.mode == Mode.w
  | none => false

def grantable {S L R : Type} (ts : List (Thread S L R)) (i : Nat) (m : Mode) : Prop :=
  ∀ j t, j ≠ i → ts[j]? = some t → (match m with
                                     | Mode.w => inside t = false
                                     | Mode.r => insideW t = false)

inductive Step {S L R : Type} : State S L R → State S L R → Prop where
  | acquire (s : State S L R) (i : Nat) (t : Thread S L R) (c : Call S L R) (rest : List (Call S L R)) :
      s.threads[i]? = some t → t.cur = none → t.todo = c :: rest → grantable s.threads i c.mode →
      Step s { s with threads := s.threads.set i { t with todo := rest, cur := some (c, c.init, c.steps) },
                      hist := s.hist ++ [Event.acq (i, t.pc)] }
  | micro (s : State S L R) (i : Nat) (t : Thread S L R) (c : Call S L R) (l : L) (m : Micro S L) (ms : List (Micro S L)) :
      s.threads[i]? = some t → t.cur = some (c, l, m :: ms) →
      Step s { s with σ := (m.run (s.σ, l)).1,
                      threads := s.threads.set i { t with cur := some (c, (m.run (s.σ, l)).2, ms) } }
  | release (s : State S L R) (i : Nat) (t : Thread S L R) (c : Call S L R) (l : L) :
      s.threads[i]? = some t → t.cur = some (c, l, []) →
      Step s { s with threads := s.threads.set i { t with cur := none, pc := t.pc + 1 },
                      hist := s.hist ++ [Event.rel (i, t.pc) (c.result l)] }

inductive Steps {S L R : Type} : State S L R → State S L R → Prop where
  | refl (s : State S L R) : Steps s s
  | tail {s s' s'' : State S L R} : Steps s s' → Step s' s'' → Steps s s''

def initial {S L R : Type} (σ0 : S) (ps : List (List (Call S L R))) : State S L R :=
  { σ := σ0, threads := ps.map (fun p => { todo := p, cur := none, pc := 0 }), hist := [] }

def finished {S L R : Type} (s : State S L R) : Prop := ∀ t ∈ s.threads, t.todo = [] ∧ t.cur = none

def callOf {S L R : Type} (ps : List (List (Call S L R))) (id : CallId) : Option (Call S L R) :=
  (ps[id.1]?).bind (fun p => p[id.2]?)

def acqOrder {R : Type} (h : List (Event R)) : List CallId :=
  h.filterMap (fun e => match e with
                        | Event.acq c => some c
                        | Event.rel _ _ => none)

def runSeq {S L R : Type} (ps : List (List (Call S L R))) : List CallId → S → S × List (CallId × R)
  | [], σ => (σ, [])
  | id :: ids, σ =>
    match callOf ps id with
    | none => runSeq ps ids σ
    | some c =>
      let (σ', r) := c.atomic σ
      let (σ'', rs) := runSeq ps ids σ'
      (σ'', (id, r) :: rs)

def posOf {R : Type} (h : List (Event R)) (p : Event R → Bool) : Option Nat := h.findIdx? p

def isAcq {R : Type} (c : CallId) : Event R → Bool
  | Event.acq c' => c' == c
  | _ => false
def isRel {R : Type} (c : CallId) : Event R → Bool
  | Event.rel c' _ => c' == c
  | _ => false

section
variable {S L R : Type}

/-! ## Lists -/

theorem drop_eq_cons {α : Type} {p : List α} {n : Nat} {c : α} {rest : List α}
    (h : p.drop n = c :: rest) : p[n]? = some c ∧ p.drop (n + 1) = rest :=
  ⟨(List.getElem?_drop (j := 0)).symm.trans (congrArg (·[0]?) h),
    List.drop_drop.symm.trans (congrArg (List.drop 1) h)⟩

def Before {α : Type} (l : List α) (x y : α) : Prop :=
  ∃ a b : Nat, l[a]? = some x ∧ l[b]? = some y ∧ a < b

theorem Before.append {α : Type} {l : List α} {x y : α} (h : Before l x y) (l' : List α) :
    Before (l ++ l') x y := by
  obtain ⟨a, b, ha, hb, hab⟩ := h
  refine ⟨a, b, ?_, ?_, hab⟩
  · exact (List.getElem?_append_left (List.getElem?_some_lt ha)).trans ha
  · exact (List.getElem?_append_left (List.getElem?_some_lt hb)).trans hb

theorem before_snoc {α : Type} {l : List α} {x : α} (h : x ∈ l) (y : α) : Before (l ++ [y]) x y := by
  obtain ⟨a, ha⟩ := List.mem_iff_getElem?.1 h
  have hlt := List.getElem?_some_lt ha
  exact ⟨a, l.length, (List.getElem?_append_left hlt).trans ha, List.getElem?_concat_length, hlt⟩

/-! ## Acquisition order -/

theorem mem_acqOrder {h : List (Event R)} {id : CallId} : id ∈ acqOrder h ↔ Event.acq id ∈ h := by
  unfold acqOrder
  rw [List.mem_filterMap]
  constructor
  · rintro ⟨e, he, h⟩
    cases e with
    | acq c =>
      cases h
      exact he
    | rel c r => cases h
  · exact fun h => ⟨_, h, rfl⟩

theorem acqOrder_snoc_acq (h : List (Event R)) (id : CallId) :
    acqOrder (h ++ [Event.acq id]) = acqOrder h ++ [id] :=
  List.filterMap_append

theorem acqOrder_snoc_rel (h : List (Event R)) (id : CallId) (r : R) :
    acqOrder (h ++ [Event.rel id r]) = acqOrder h :=
  List.filterMap_append.trans (List.append_nil _)

theorem mem_acqOrder_acq {h : List (Event R)} {id id' : CallId} :
    id' ∈ acqOrder (h ++ [Event.acq id]) ↔ id' ∈ acqOrder h ∨ id' = id := by
  rw [acqOrder_snoc_acq, List.mem_append, List.mem_singleton]

theorem rel_mem_snoc_acq {h : List (Event R)} {id id' : CallId} {res : R}
    (hm : Event.rel id res ∈ h ++ [Event.acq id']) : Event.rel id res ∈ h :=
  (List.mem_append.1 hm).resolve_right fun e => nomatch List.mem_singleton.1 e

/-! ## Positions in the history -/

theorem posOf_some {h : List (Event R)} {p : Event R → Bool} {n : Nat} (hp : posOf h p = some n) :
    n < h.length ∧ ∃ e ∈ h, p e = true := by
  obtain ⟨hn, hpe, -⟩ := List.findIdx?_eq_some_iff_getElem.1 hp
  exact ⟨hn, _, List.getElem_mem hn, hpe⟩

theorem posOf_snoc {h : List (Event R)} {e : Event R} {p : Event R → Bool} {n : Nat}
    (hp : posOf (h ++ [e]) p = some n) :
    posOf h p = some n ∨ (posOf h p = none ∧ p e = true ∧ n = h.length) := by
  unfold posOf at hp ⊢
  rw [List.findIdx?_append, List.findIdx?_cons] at hp
  cases hh : List.findIdx? p h with
  | some m =>
    rw [hh] at hp
    exact .inl hp
  | none =>
    rw [hh] at hp
    cases hpe : p e with
    | false =>
      rw [hpe] at hp
      cases hp
    | true =>
      rw [hpe] at hp
      exact .inr ⟨rfl, rfl, (Option.some.inj hp).symm.trans (Nat.zero_add _)⟩

theorem isRel_true {c : CallId} {e : Event R} (h : isRel c e = true) : ∃ res, e = Event.rel c res := by
  cases e with
  | acq c' => cases h
  | rel c' r =>
    cases eq_of_beq h
    exact ⟨r, rfl⟩

theorem isAcq_true {c : CallId} {e : Event R} (h : isAcq c e = true) : e = Event.acq c := by
  cases e with
  | acq c' =>
    cases eq_of_beq h
    rfl
  | rel c' r => cases h

/-! ## Sequential runs -/

theorem callOf_eq_some {ps : List (List (Call S L R))} {i k : Nat} {c : Call S L R} :
    callOf ps (i, k) = some c ↔ ∃ p, ps[i]? = some p ∧ p[k]? = some c :=
  Option.bind_eq_some_iff

theorem runSeq_append (ps : List (List (Call S L R))) (o o' : List CallId) (σ : S) :
    runSeq ps (o ++ o') σ =
      ((runSeq ps o' (runSeq ps o σ).1).1, (runSeq ps o σ).2 ++ (runSeq ps o' (runSeq ps o σ).1).2) := by
  induction o generalizing σ with
  | nil => rfl
  | cons x o ih =>
    rw [List.cons_append, runSeq, runSeq]
    cases callOf ps x with
    | none => exact ih σ
    | some c => exact congrArg (fun r => (r.1, (x, (c.atomic σ).2) :: r.2)) (ih _)

theorem runSeq_acq {ps : List (List (Call S L R))} {id : CallId} {c : Call S L R}
    (hc : callOf ps id = some c) (h : List (Event R)) (σ0 : S) :
    runSeq ps (acqOrder (h ++ [Event.acq id])) σ0 =
      ((c.atomic (runSeq ps (acqOrder h) σ0).1).1,
        (runSeq ps (acqOrder h) σ0).2 ++ [(id, (c.atomic (runSeq ps (acqOrder h) σ0).1).2)]) := by
  rw [acqOrder_snoc_acq, runSeq_append, runSeq, hc]
  rfl

theorem runSteps_cons (m : Micro S L) (ms : List (Micro S L)) (p : S × L) :
    runSteps (m :: ms) p = runSteps ms (m.run p) := rfl

theorem runSteps_nil (p : S × L) : runSteps ([] : List (Micro S L)) p = p := rfl

theorem runSteps_reads (ms : List (Micro S L)) (h : ∀ m ∈ ms, ∃ f, m = Micro.read f) (p : S × L) :
    (runSteps ms p).1 = p.1 := by
  induction ms generalizing p with
  | nil => rfl
  | cons m ms ih =>
    rw [runSteps_cons, ih (fun m' hm' => h m' (List.mem_cons_of_mem _ hm'))]
    rcases h m (List.mem_cons_self) with ⟨f, rfl⟩
    rfl

theorem atomic_reader {c : Call S L R} (hwf : c.WF) (hr : c.mode = Mode.r) (σ : S) :
    (c.atomic σ).1 = σ := by
  unfold Call.atomic
  exact runSteps_reads c.steps (hwf hr) (σ, c.init)

/-! ## `inside`, `insideW`, `grantable` -/

theorem inside_cur {t : Thread S L R} {x} (h : t.cur = some x) : inside t = true := by
  rw [inside, h]
  rfl

theorem inside_none {t : Thread S L R} (h : t.cur = none) : inside t = false := by
  rw [inside, h]
  rfl

theorem insideW_none {t : Thread S L R} (h : t.cur = none) : insideW t = false := by
  rw [insideW, h]

theorem insideW_cur {t : Thread S L R} {c l ms} (h : t.cur = some (c, l, ms)) :
    insideW t = (c.mode == Mode.w) := by
  rw [insideW, h]

theorem insideW_iff {t : Thread S L R} {c l ms} (h : t.cur = some (c, l, ms)) :
    insideW t = true ↔ c.mode = Mode.w := by
  rw [insideW_cur h]
  exact beq_iff_eq

theorem insideW_false_iff {t : Thread S L R} {c l ms} (h : t.cur = some (c, l, ms)) :
    insideW t = false ↔ c.mode = Mode.r := by
  rw [insideW_cur h]
  cases c.mode <;> decide

theorem insideW_elim {t : Thread S L R} (h : insideW t = true) :
    ∃ c l ms, t.cur = some (c, l, ms) ∧ c.mode = Mode.w := by
  cases hc : t.cur with
  | none =>
    rw [insideW_none hc] at h
    cases h
  | some x => exact ⟨x.1, x.2.1, x.2.2, rfl, (insideW_iff hc).1 h⟩

theorem insideW_inside {t : Thread S L R} (h : insideW t = true) : inside t = true := by
  obtain ⟨_, _, _, hc, _⟩ := insideW_elim h
  exact inside_cur hc

theorem grantable_of_idle {ts : List (Thread S L R)} (h : ts.all (fun t => t.cur.isNone) = true)
    (i : Nat) (m : Mode) : grantable ts i m := by
  intro j t _ hj
  have := Option.isNone_iff_eq_none.1 (List.all_eq_true.1 h t (List.mem_of_getElem? hj))
  cases m with
  | r => exact insideW_none this
  | w => exact inside_none this

theorem grantable.noW {ts : List (Thread S L R)} {i : Nat} {m : Mode} (hg : grantable ts i m)
    {j : Nat} {t : Thread S L R} (hne : j ≠ i) (hj : ts[j]? = some t) : insideW t = false := by
  have := hg j t hne hj
  cases m
  · exact this
  · exact Bool.eq_false_iff.2 fun w => Bool.false_ne_true (this.symm.trans (insideW_inside w))

end

/-! ## Well-formed histories -/

section History
variable {R : Type}

structure HistOK (h : List (Event R)) : Prop where
  nodup : (acqOrder h).Nodup
  relAcq : ∀ id res, Event.rel id res ∈ h → id ∈ acqOrder h
  po : ∀ (i k k' : Nat), k < k' → (i, k') ∈ acqOrder h → Before (acqOrder h) (i, k) (i, k')
  /-- real-time order: released before the other was acquired -/
  rt : ∀ (c d : CallId) (pr pa : Nat), posOf h (isRel c) = some pr → posOf h (isAcq d) = some pa →
    pr < pa → Before (acqOrder h) c d

theorem HistOK.nil : HistOK ([] : List (Event R)) where
  nodup := List.nodup_nil
  relAcq := fun _ _ h => absurd h List.not_mem_nil
  po := fun _ _ _ _ h => absurd h List.not_mem_nil
  rt := fun _ _ _ _ h => nomatch h

theorem HistOK.acq {h : List (Event R)} (H : HistOK h) {id : CallId} (hnew : id ∉ acqOrder h)
    (hprev : ∀ k, k < id.2 → (id.1, k) ∈ acqOrder h) : HistOK (h ++ [Event.acq id]) := by
  refine ⟨?nodup, ?relAcq, ?po, ?rt⟩ <;> rw [acqOrder_snoc_acq]
  case nodup =>
    exact List.nodup_append.2 ⟨H.nodup, List.pairwise_singleton _ _, fun a ha b hb e =>
      hnew (List.mem_singleton.1 hb ▸ e ▸ ha)⟩
  case relAcq =>
    exact fun c res hmem => List.mem_append_left _ (H.relAcq c res (rel_mem_snoc_acq hmem))
  case po =>
    intro i k k' hlt hmem
    rcases List.mem_append.1 hmem with hmem | hmem
    · exact (H.po i k k' hlt hmem).append _
    · cases List.mem_singleton.1 hmem
      exact before_snoc (hprev k hlt) _
  case rt =>
    -- real time: the release of `c` stands before the acquisition of `d`.  The new event is last: if it
    -- is that acquisition, `c`, released in `h`, was acquired in `h` (`relAcq`) and `d` goes to the end
    -- of `acqOrder`; if both events are old, `H.rt` says it of `h`, a prefix
    intro c d pr pa hpr hpa hlt
    rcases posOf_snoc hpr with hpr | ⟨_, he, _⟩
    · rcases posOf_snoc hpa with hpa | ⟨_, he, _⟩
      · exact (H.rt c d pr pa hpr hpa hlt).append _
      · cases isAcq_true he
        obtain ⟨e, hemem, hep⟩ := (posOf_some hpr).2
        obtain ⟨res, rfl⟩ := isRel_true hep
        exact before_snoc (H.relAcq c res hemem) _
    · cases he

theorem HistOK.rel {h : List (Event R)} (H : HistOK h) {id : CallId} (hin : id ∈ acqOrder h)
    (res : R) : HistOK (h ++ [Event.rel id res]) := by
  refine ⟨?nodup, ?relAcq, ?po, ?rt⟩ <;> rw [acqOrder_snoc_rel]
  case nodup => exact H.nodup
  case relAcq =>
    intro c r hmem
    rcases List.mem_append.1 hmem with hmem | hmem
    · exact H.relAcq c r hmem
    · cases List.mem_singleton.1 hmem
      exact hin
  case po => exact H.po
  case rt =>
    -- the new release is the last event, so it stands before no acquisition (`pr < pa` fails): both
    -- positions are old, and `acqOrder` is that of `h`
    intro c d pr pa hpr hpa hlt
    rcases posOf_snoc hpa with hpa | ⟨_, he, _⟩
    · rcases posOf_snoc hpr with hpr | ⟨_, _, hpr⟩
      · exact H.rt c d pr pa hpr hpa hlt
      · exact absurd (hpr ▸ hlt) (Nat.lt_asymm (posOf_some hpa).1)
    · cases he

end History

/-! ## The invariant -/

section Invariant
variable {S L R : Type}

/-- the invariant's part about the call `c` that a thread is inside, with identity `id`, local state
    `l` and the micro-steps `ms` still to do -/
structure CInv (σ0 : S) (ps : List (List (Call S L R))) (σ : S) (h : List (Event R)) (id : CallId)
    (c : Call S L R) (l : L) (ms : List (Micro S L)) : Prop where
  acq : ∀ k, (id.1, k) ∈ acqOrder h ↔ k ≤ id.2
  reads : c.mode = Mode.r → ∀ m ∈ ms, ∃ f, m = Micro.read f
  writer : c.mode = Mode.w → (runSteps ms (σ, l)).1 = (runSeq ps (acqOrder h) σ0).1
  res : (id, c.result (runSteps ms (σ, l)).2) ∈ (runSeq ps (acqOrder h) σ0).2

structure TInv (σ0 : S) (ps : List (List (Call S L R))) (σ : S) (h : List (Event R)) (i : Nat)
    (t : Thread S L R) : Prop where
  rel : ∀ k, k < t.pc → ∃ res, Event.rel (i, k) res ∈ h
  run : ∃ p, ps[i]? = some p ∧
    match t.cur with
    | none => t.todo = p.drop t.pc ∧ ∀ k, (i, k) ∈ acqOrder h ↔ k < t.pc
    | some (c, l, ms) =>
      p[t.pc]? = some c ∧ t.todo = p.drop (t.pc + 1) ∧ CInv σ0 ps σ h (i, t.pc) c l ms

variable {σ0 : S} {ps : List (List (Call S L R))} {σ σ' : S} {h h' : List (Event R)} {i : Nat}
  {t : Thread S L R}

/-- frame: a step of another thread extends the history without acquiring for thread `i`, moves
    the shared state only if `i` is outside, and moves the sequential state only if `i` is no
    writer inside -/
theorem TInv.frame (T : TInv σ0 ps σ h i t) (hh : ∀ e ∈ h, e ∈ h')
    (hO : ∀ k, (i, k) ∈ acqOrder h' ↔ (i, k) ∈ acqOrder h)
    (hσ : inside t = true → σ' = σ)
    (h1 : insideW t = true → (runSeq ps (acqOrder h') σ0).1 = (runSeq ps (acqOrder h) σ0).1)
    (h2 : ∀ x ∈ (runSeq ps (acqOrder h) σ0).2, x ∈ (runSeq ps (acqOrder h') σ0).2) :
    TInv σ0 ps σ' h' i t := by
  obtain ⟨hrel, p, hp, hrun⟩ := T
  refine { rel := fun k hk => (hrel k hk).imp fun _ => hh _, run := ⟨p, hp, ?_⟩ }
  rcases t with ⟨todo, _ | ⟨c, l, ms⟩, pc⟩
  · exact ⟨hrun.1, fun k => (hO k).trans (hrun.2 k)⟩
  · obtain ⟨hc, htd, C⟩ := hrun
    cases hσ rfl
    exact ⟨hc, htd,
      { acq := fun k => (hO k).trans (C.acq k)
        reads := C.reads
        writer := fun m => (C.writer m).trans (h1 ((insideW_iff rfl).2 m)).symm
        res := h2 _ C.res }⟩

/-- a step that acquires nothing leaves the acquisition order, and with it the sequential run -/
theorem TInv.frame_order (T : TInv σ0 ps σ h i t) (hh : ∀ e ∈ h, e ∈ h')
    (ho : acqOrder h' = acqOrder h) (hσ : inside t = true → σ' = σ) : TInv σ0 ps σ' h' i t :=
  T.frame hh (fun _ => ho ▸ Iff.rfl) hσ (fun _ => ho ▸ rfl) fun _ hx => ho ▸ hx

/-- an acquisition by another thread: the sequential run gains a call, which moves the sequential
    state, so thread `i` must not be a writer inside; the results only grow -/
theorem TInv.frame_acq (T : TInv σ0 ps σ h i t) {id : CallId} (hne : id.1 ≠ i)
    (hW : insideW t = false) : TInv σ0 ps σ (h ++ [Event.acq id]) i t := by
  refine T.frame (fun _ => List.mem_append_left _) (fun k => ?_) (fun _ => rfl)
    (fun w => absurd (hW.symm.trans w) Bool.false_ne_true) fun x => ?_
  · rw [mem_acqOrder_acq]
    exact or_iff_left fun e => hne (congrArg Prod.fst e).symm
  · rw [acqOrder_snoc_acq, runSeq_append]
    exact List.mem_append_left _

structure Inv (σ0 : S) (ps : List (List (Call S L R))) (σ : S) (ts : List (Thread S L R))
    (h : List (Event R)) : Prop where
  len : ts.length = ps.length
  thr : ∀ (i : Nat) (t : Thread S L R), ts[i]? = some t → TInv σ0 ps σ h i t
  call : ∀ id ∈ acqOrder h, ∃ c, callOf ps id = some c
  excl : ∀ (i j : Nat) (ti tj : Thread S L R), i ≠ j → ts[i]? = some ti → ts[j]? = some tj →
    insideW ti = true → inside tj = false
  sigR : (∀ (j : Nat) (t : Thread S L R), ts[j]? = some t → insideW t = false) →
    σ = (runSeq ps (acqOrder h) σ0).1
  resOk : ∀ id res, Event.rel id res ∈ h → (id, res) ∈ (runSeq ps (acqOrder h) σ0).2
  hist : HistOK h

theorem initial_thread (h : (initial σ0 ps).threads[i]? = some t) :
    ∃ p, ps[i]? = some p ∧ t = { todo := p, cur := none, pc := 0 } := by
  obtain ⟨p, hp, e⟩ := Option.map_eq_some_iff.1 (List.getElem?_map.symm.trans h)
  exact ⟨p, hp, e.symm⟩

theorem inv_initial (σ0 : S) (ps : List (List (Call S L R))) :
    Inv σ0 ps σ0 (initial σ0 ps).threads [] where
  len := List.length_map _
  thr := by
    intro i t h
    obtain ⟨p, hp, rfl⟩ := initial_thread h
    exact { rel := fun k hk => absurd hk (Nat.not_lt_zero k)
            run := ⟨p, hp, rfl, fun k =>
              ⟨fun hk => absurd hk List.not_mem_nil, fun hk => absurd hk (Nat.not_lt_zero k)⟩⟩ }
  call := fun _ h => absurd h List.not_mem_nil
  excl := by
    intro i j ti tj _ hi _ hW
    obtain ⟨p, hp, rfl⟩ := initial_thread hi
    cases hW
  sigR := fun _ => rfl
  resOk := fun _ _ h => absurd h List.not_mem_nil
  hist := HistOK.nil

variable {ts : List (Thread S L R)} {c : Call S L R}

theorem inv_acquire (hwf : ∀ p ∈ ps, ∀ c ∈ p, c.WF) (I : Inv σ0 ps σ ts h)
    {rest : List (Call S L R)} (hi : ts[i]? = some t) (hcur : t.cur = none)
    (htodo : t.todo = c :: rest) (hg : grantable ts i c.mode) :
    Inv σ0 ps σ (ts.set i { t with todo := rest, cur := some (c, c.init, c.steps) })
      (h ++ [Event.acq (i, t.pc)]) := by
  have T := I.thr i t hi
  obtain ⟨p, hp, hrun⟩ := T.run
  rw [hcur] at hrun
  obtain ⟨htd, hmem⟩ := hrun
  obtain ⟨hpc, hrest⟩ := drop_eq_cons (htd.symm.trans htodo)
  have hcall : callOf ps (i, t.pc) = some c := callOf_eq_some.2 ⟨p, hp, hpc⟩
  have hcwf : c.WF := hwf p (List.mem_of_getElem? hp) c (List.mem_of_getElem? hpc)
  -- thread `i` is outside and, the lock being grantable (in either mode), no other thread is inside
  -- as a writer: so `I.sigR` identifies `σ` with the state the sequential run has reached, and
  -- the sequential run gains the call, run atomically on `σ`
  have hnoW : ∀ (j : Nat) (tj : Thread S L R), ts[j]? = some tj → insideW tj = false :=
    (List.forall_getElem?_split hi).2 ⟨insideW_none hcur, fun j tj => hg.noW⟩
  have hseq := runSeq_acq hcall h σ0
  rw [← I.sigR hnoW] at hseq
  have hres : ∀ x, x ∈ (runSeq ps (acqOrder (h ++ [Event.acq (i, t.pc)])) σ0).2 ↔
      x ∈ (runSeq ps (acqOrder h) σ0).2 ∨ x = ((i, t.pc), (c.atomic σ).2) :=
    fun x => by rw [hseq, List.mem_append, List.mem_singleton]
  refine { len := List.length_set.trans I.len, thr := ?thr, call := ?call, excl := ?excl, sigR := ?sigR,
           resOk := fun id res hm => (hres _).2 (.inl (I.resOk id res (rel_mem_snoc_acq hm))),
           hist := I.hist.acq (fun hin => Nat.lt_irrefl _ ((hmem _).1 hin)) fun k => (hmem k).2 }
  case thr =>
    -- for thread `i` itself what remains is all of `c.steps` from `(σ, c.init)`, and running that is
    -- `c.atomic σ` by definition: hence `hseq` read backwards, and the `rfl`
    refine (List.forall_getElem?_set hi).2
      ⟨{ rel := fun k hk => (T.rel k hk).imp fun _ => List.mem_append_left _
         run := ⟨p, hp, hpc, hrest.symm,
           { acq := fun k => ?_
             reads := hcwf
             writer := fun _ => (congrArg Prod.fst hseq).symm
             res := (hres _).2 (.inr rfl) }⟩ },
        fun j tj hne hj => (I.thr j tj hj).frame_acq (Ne.symm hne) (hnoW j tj hj)⟩
    rw [mem_acqOrder_acq, hmem k, Prod.mk.injEq, and_iff_right rfl]
    exact Nat.le_iff_lt_or_eq.symm
  case call =>
    intro id hid
    rcases mem_acqOrder_acq.1 hid with hid | rfl
    · exact I.call id hid
    · exact ⟨c, hcall⟩
  case excl =>
    refine List.forall₂_getElem?_set I.excl (fun b tb hb hjb w => ?_) fun a ta _ ha w => ?_
    · have := hg b tb hb hjb
      rw [(insideW_iff rfl).1 w] at this
      exact this
    · rw [hnoW a ta ha] at w
      cases w
  case sigR =>
    intro hall
    -- if still no writer is inside then `c` is a reader, which run atomically leaves `σ` alone
    have hm := (insideW_false_iff rfl).1 ((List.forall_getElem?_set hi).1 hall).1
    exact (atomic_reader hcwf hm σ).symm.trans (congrArg Prod.fst hseq).symm

theorem inv_micro (I : Inv σ0 ps σ ts h) {l : L} {m : Micro S L} {ms : List (Micro S L)}
    (hi : ts[i]? = some t) (hcur : t.cur = some (c, l, m :: ms)) :
    Inv σ0 ps (m.run (σ, l)).1 (ts.set i { t with cur := some (c, (m.run (σ, l)).2, ms) }) h := by
  have T := I.thr i t hi
  obtain ⟨p, hp, hrun⟩ := T.run
  rw [hcur] at hrun
  obtain ⟨hpc, htd, C⟩ := hrun
  have hσr : c.mode = Mode.r → (m.run (σ, l)).1 = σ := by
    intro hr
    obtain ⟨f, rfl⟩ := C.reads hr m List.mem_cons_self
    rfl
  refine { len := List.length_set.trans I.len, thr := ?thr, call := I.call, excl := ?excl, sigR := ?sigR,
           resOk := I.resOk, hist := I.hist }
  case thr =>
    -- `writer`, `res` pass unchanged: `runSteps (m :: ms) p` is `runSteps ms (m.run p)` by definition
    refine (List.forall_getElem?_set hi).2
      ⟨{ rel := T.rel
         run := ⟨p, hp, hpc, htd,
           { C with reads := fun hr m' hm' => C.reads hr m' (List.mem_cons_of_mem _ hm') }⟩ },
        fun j tj hne hj => ?_⟩
    refine (I.thr j tj hj).frame_order (fun _ => id) rfl fun hin => ?_
    -- while another thread is inside, the stepping call is a reader
    cases hm : c.mode
    · exact hσr hm
    · have := I.excl i j t tj (Ne.symm hne) hi hj ((insideW_iff hcur).2 hm)
      rw [hin] at this
      cases this
  case excl =>
    refine List.forall₂_getElem?_set I.excl (fun b tb hb hjb w => ?_) fun a ta ha hja w => ?_
    · exact I.excl i b t tb (Ne.symm hb) hi hjb ((insideW_iff hcur).2 ((insideW_iff rfl).1 w))
    · have := I.excl a i ta t ha hja hi w
      rw [inside_cur hcur] at this
      cases this
  case sigR =>
    intro hall
    obtain ⟨hnew, hold⟩ := (List.forall_getElem?_set hi).1 hall
    have hm := (insideW_false_iff rfl).1 hnew
    rw [hσr hm]
    exact I.sigR ((List.forall_getElem?_split hi).2 ⟨(insideW_false_iff hcur).2 hm, hold⟩)

theorem inv_release (I : Inv σ0 ps σ ts h) {l : L} (hi : ts[i]? = some t)
    (hcur : t.cur = some (c, l, [])) :
    Inv σ0 ps σ (ts.set i { t with cur := none, pc := t.pc + 1 })
      (h ++ [Event.rel (i, t.pc) (c.result l)]) := by
  have T := I.thr i t hi
  obtain ⟨p, hp, hrun⟩ := T.run
  rw [hcur] at hrun
  obtain ⟨hpc, htd, C⟩ := hrun
  refine { len := List.length_set.trans I.len, thr := ?thr, call := (acqOrder_snoc_rel ..).symm ▸ I.call,
           excl := ?excl, sigR := ?sigR, resOk := ?resOk,
           hist := I.hist.rel ((C.acq _).2 (Nat.le_refl _)) _ }
  case thr =>
    refine (List.forall_getElem?_set hi).2
      ⟨{ rel := fun k hk => ?_, run := ⟨p, hp, htd, fun k => ?_⟩ }, fun j tj hne hj => ?_⟩
    · rcases Nat.lt_succ_iff_lt_or_eq.1 hk with hk | rfl
      · exact (T.rel k hk).imp fun _ => List.mem_append_left _
      · exact ⟨_, List.mem_append_right _ (List.mem_singleton.2 rfl)⟩
    · rw [acqOrder_snoc_rel, C.acq k]
      exact Nat.lt_succ_iff.symm
    · exact (I.thr j tj hj).frame_order (fun _ => List.mem_append_left _) (acqOrder_snoc_rel ..)
        fun _ => rfl
  case excl =>
    exact List.forall₂_getElem?_set I.excl (fun b tb _ _ w => by cases w)
      fun a ta _ _ _ => rfl
  case sigR =>
    intro hall
    rw [acqOrder_snoc_rel]
    -- a reader leaves no writer behind; a writer leaves the state it was going to produce
    cases hm : c.mode
    · exact I.sigR ((List.forall_getElem?_split hi).2
        ⟨(insideW_false_iff hcur).2 hm, ((List.forall_getElem?_set hi).1 hall).2⟩)
    · exact C.writer hm
  case resOk =>
    intro id res hmem'
    rw [acqOrder_snoc_rel]
    rcases List.mem_append.1 hmem' with hmem' | hmem'
    · exact I.resOk id res hmem'
    · cases List.mem_singleton.1 hmem'
      exact C.res

theorem inv_step (hwf : ∀ p ∈ ps, ∀ c ∈ p, c.WF) {s s' : State S L R}
    (I : Inv σ0 ps s.σ s.threads s.hist) (st : Step s s') : Inv σ0 ps s'.σ s'.threads s'.hist := by
  cases st with
  | acquire i t c rest hi hcur htodo hg => exact inv_acquire hwf I hi hcur htodo hg
  | micro i t c l m ms hi hcur => exact inv_micro I hi hcur
  | release i t c l hi hcur => exact inv_release I hi hcur

theorem inv_reachable (hwf : ∀ p ∈ ps, ∀ c ∈ p, c.WF) {s : State S L R}
    (hrun : Steps (initial σ0 ps) s) : Inv σ0 ps s.σ s.threads s.hist := by
  induction hrun with
  | refl => exact inv_initial σ0 ps
  | tail _ st ih => exact inv_step hwf ih st

theorem Inv.finished_thread (I : Inv σ0 ps σ ts h) (hfin : ∀ t ∈ ts, t.todo = [] ∧ t.cur = none)
    {p : List (Call S L R)} (hp : ps[i]? = some p) :
    ∃ t, ts[i]? = some t ∧ p.length ≤ t.pc ∧ ∀ k, (i, k) ∈ acqOrder h ↔ k < t.pc := by
  have ht := List.getElem?_eq_getElem (I.len ▸ List.getElem?_some_lt hp)
  obtain ⟨htodo, hcur⟩ := hfin _ (List.mem_of_getElem? ht)
  obtain ⟨p', hp', hrun⟩ := (I.thr i _ ht).run
  rw [hcur] at hrun
  cases hp.symm.trans hp'
  exact ⟨_, ht, List.drop_eq_nil_iff.1 (hrun.1.symm.trans htodo), hrun.2⟩

end Invariant

theorem linearizable {S L R : Type} (σ0 : S) (ps : List (List (Call S L R)))
    (hwf : ∀ p ∈ ps, ∀ c ∈ p, c.WF) (s : State S L R)
    (hrun : Steps (initial σ0 ps) s) (hfin : finished s) :
    let order := acqOrder s.hist
    -- same final state, same results
    (runSeq ps order σ0).1 = s.σ ∧
    (∀ id res, Event.rel id res ∈ s.hist → (id, res) ∈ (runSeq ps order σ0).2) ∧
    -- every call of every program exactly once
    order.Nodup ∧
    (∀ (i k : Nat), (∃ c, callOf ps (i, k) = some c) ↔ (i, k) ∈ order) ∧
    -- program order and real-time order
    (∀ (i k k' : Nat), k < k' → (i, k') ∈ order →
       ∃ a b : Nat, order[a]? = some (i, k) ∧ order[b]? = some (i, k') ∧ a < b) ∧
    (∀ (c d : CallId) (pr pa : Nat), posOf s.hist (isRel c) = some pr → posOf s.hist (isAcq d) = some pa → pr < pa →
       ∃ a b : Nat, order[a]? = some c ∧ order[b]? = some d ∧ a < b) := by
  intro order
  have I := inv_reachable hwf hrun
  refine ⟨(I.sigR fun j t h => insideW_none (hfin t (List.mem_of_getElem? h)).2).symm, I.resOk,
    I.hist.nodup, fun i k => ⟨?_, I.call (i, k)⟩, I.hist.po, I.hist.rt⟩
  rintro ⟨c, hc⟩
  obtain ⟨p, hp, hk⟩ := callOf_eq_some.1 hc
  obtain ⟨t, _, hle, hmem⟩ := I.finished_thread hfin hp
  exact (hmem k).2 (Nat.lt_of_lt_of_le (List.getElem?_some_lt hk) hle)

theorem linearizable_all_returned {S L R : Type} (σ0 : S) (ps : List (List (Call S L R)))
    (hwf : ∀ p ∈ ps, ∀ c ∈ p, c.WF) (s : State S L R)
    (hrun : Steps (initial σ0 ps) s) (hfin : finished s) :
    ∀ id ∈ acqOrder s.hist, ∃ res, Event.rel id res ∈ s.hist := by
  have I := inv_reachable hwf hrun
  intro ⟨i, k⟩ hmem
  obtain ⟨c, hc⟩ := I.call _ hmem
  obtain ⟨p, hp, -⟩ := callOf_eq_some.1 hc
  obtain ⟨t, ht, -, hm⟩ := I.finished_thread hfin hp
  exact (I.thr i t ht).rel k ((hm k).1 hmem)

/-! ## Non-vacuity: a concrete complete run -/
namespace Example

def wcall : Call Nat Nat Nat :=
  { mode := Mode.w, init := 0,
    steps := [Micro.read (fun σ _ => σ), Micro.write (fun _ l => l + 1)], result := fun l => l }

def rcall : Call Nat Nat Nat :=
  { mode := Mode.r, init := 0, steps := [Micro.read (fun σ _ => σ)], result := fun l => l }

def progs : List (List (Call Nat Nat Nat)) := [[wcall], [rcall]]

def done0 : Thread Nat Nat Nat := { todo := [], cur := none, pc := 1 }

def s7 : State Nat Nat Nat :=
  { σ := 1, hist := [Event.acq (0, 0), Event.rel (0, 0) 0, Event.acq (1, 0), Event.rel (1, 0) 1],
    threads := [done0, { todo := [], cur := none, pc := 1 }] }

theorem run : Steps (initial 0 progs) s7 := by
  have h1 := (Steps.refl _).tail
    (Step.acquire (initial 0 progs) 0 _ wcall [] rfl rfl rfl (grantable_of_idle rfl _ _))
  have h2 := h1.tail (Step.micro _ 0 _ wcall 0 _ _ rfl rfl)
  have h3 := h2.tail (Step.micro _ 0 _ wcall _ _ _ rfl rfl)
  have h4 := h3.tail (Step.release _ 0 _ wcall _ rfl rfl)
  have h5 := h4.tail (Step.acquire _ 1 _ rcall [] rfl rfl rfl (grantable_of_idle rfl _ _))
  have h6 := h5.tail (Step.micro _ 1 _ rcall 0 _ _ rfl rfl)
  have h7 := h6.tail (Step.release _ 1 _ rcall _ rfl rfl)
  exact h7

theorem fin7 : finished s7 :=
  List.forall_mem_cons.2 ⟨⟨rfl, rfl⟩, List.forall_mem_singleton.2 ⟨rfl, rfl⟩⟩

example : ∃ s, Steps (initial 0 progs) s ∧ finished s := ⟨s7, run, fin7⟩

theorem progs_wf : ∀ p ∈ progs, ∀ c ∈ p, c.WF := by
  refine List.forall_mem_cons.2 ⟨?_, List.forall_mem_singleton.2 ?_⟩
  · exact List.forall_mem_singleton.2 fun h => nomatch h
  · exact List.forall_mem_singleton.2 fun _ m hm => ⟨_, List.mem_singleton.1 hm⟩

example : (runSeq progs (acqOrder s7.hist) 0).1 = 1 :=
  (linearizable 0 progs progs_wf s7 run fin7).1

end Example

end Sod.Lin

#print axioms Sod.Lin.linearizable
#print axioms Sod.Lin.linearizable_all_returned
