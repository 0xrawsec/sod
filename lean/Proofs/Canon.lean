/-
  Case canonicalisation (C16) and the schema guard (C17).

  Part 1 (C16).  `upper`/`lower` constraints canonicalise what is stored and what is searched,
  and canonicalising twice changes nothing.  The case mappings `E.up`/`E.lo` are parameters of
  the model; the three facts about Go's `strings.ToUpper`/`strings.ToLower` that the proofs need
  are bundled in `CaseLaws` (validated exhaustively over all code points outside Lean).

  Part 2 (C17).  A handle whose live struct does not match the stored descriptors refuses every
  call with `structChanged` and returns the state *unchanged* (no file touched, nothing logged);
  `Create` with incompatible descriptors/extension is refused the same way; `Create` with
  compatible ones (a switch of cache/async settings) flushes and keeps the denoted objects.
-/
import Proofs.Async
import Proofs.Batch
namespace Sod

/-! ## Part 1 — C16 -/

/-- the assumed facts about the two case mappings -/
structure CaseLaws (E : Env) : Prop where
  up_idem   : ∀ s, E.up (E.up s) = E.up s
  lo_idem   : ∀ s, E.lo (E.lo s) = E.lo s
  loup_idem : ∀ s, E.lo (E.up (E.lo (E.up s))) = E.lo (E.up s)

/-! ### bytes, leaves, value lists, objects -/

theorem canonBytes_idem (E : Env) (L : CaseLaws E) (c : Cons) (s : Bytes) :
    E.canonBytes c (E.canonBytes c s) = E.canonBytes c s := by
  unfold Env.canonBytes
  cases c.upper <;> cases c.lower
  · rfl
  · exact L.lo_idem s
  · exact L.up_idem s
  · exact L.loup_idem s

/-- the three laws are exactly what idempotence of `canonBytes` needs: nothing weaker will do -/
theorem caseLaws_of_canonBytes_idem (E : Env)
    (h : ∀ (c : Cons) (s : Bytes), E.canonBytes c (E.canonBytes c s) = E.canonBytes c s) : CaseLaws E := by
  refine ⟨fun s => ?_, fun s => ?_, fun s => ?_⟩
  · exact h { upper := true } s
  · exact h { lower := true } s
  · exact h { upper := true, lower := true } s

theorem canonBytes_of_not_transformer (E : Env) (c : Cons) (h : c.transformer = false) (s : Bytes) :
    E.canonBytes c s = s := by
  unfold Cons.transformer at h
  rw [Bool.or_eq_false_iff] at h
  rw [Env.canonBytes, h.1, h.2]
  rfl

theorem canonLeaf_str (E : Env) (c : Cons) (s : Bytes) :
    E.canonLeaf c (.v (.str s)) = .v (.str (E.canonBytes c s)) := rfl

theorem canonLeaf_nonstr (E : Env) (c : Cons) (x : Leaf) (h : ∀ s, x ≠ .v (.str s)) : E.canonLeaf c x = x := by
  unfold Env.canonLeaf
  split
  · exact absurd rfl (h _)
  · rfl

theorem canonLeaf_of_not_transformer (E : Env) (c : Cons) (h : c.transformer = false) (x : Leaf) :
    E.canonLeaf c x = x := by
  unfold Env.canonLeaf
  split
  · rw [canonBytes_of_not_transformer E c h]
  · rfl

theorem canonLeaf_idem (E : Env) (L : CaseLaws E) (c : Cons) (x : Leaf) :
    E.canonLeaf c (E.canonLeaf c x) = E.canonLeaf c x := by
  by_cases h : ∃ s, x = .v (.str s)
  · obtain ⟨s, rfl⟩ := h
    rw [canonLeaf_str, canonLeaf_str, canonBytes_idem E L]
  · have h' : ∀ s, x ≠ .v (.str s) := fun s e => h ⟨s, e⟩
    rw [canonLeaf_nonstr E c x h', canonLeaf_nonstr E c x h']

/-- `canonVals` has two cases, "a descriptor and a leaf" and the rest, where nothing is touched;
    `fun_induction` presents them in this order -/
theorem canonVals_of_not_cons (E : Env) {ds : List FieldDesc} {xs : List Leaf}
    (h : ∀ d ds' x xs', ds = d :: ds' → xs = x :: xs' → False) : canonVals E ds xs = xs := by
  unfold canonVals
  split
  · exact (h _ _ _ _ rfl rfl).elim
  · rfl

theorem canonVals_idem (E : Env) (L : CaseLaws E) (descs : List FieldDesc) (xs : List Leaf) :
    canonVals E descs (canonVals E descs xs) = canonVals E descs xs := by
  fun_induction canonVals E descs xs
  · next ih => rw [canonVals, canonLeaf_idem E L, ih]
  · next h => exact canonVals_of_not_cons E h

theorem canonVals_length (E : Env) (descs : List FieldDesc) (xs : List Leaf) :
    (canonVals E descs xs).length = xs.length := by
  fun_induction canonVals E descs xs
  · next ih => rw [List.length_cons, List.length_cons, ih]
  · rfl

theorem canonVals_getElem? (E : Env) (descs : List FieldDesc) (xs : List Leaf) (i : Nat) :
    (canonVals E descs xs)[i]? =
      match descs[i]? with
      | some d => xs[i]?.map (E.canonLeaf d.cons)
      | none => xs[i]? := by
  fun_induction canonVals E descs xs generalizing i
  · next ih =>
    cases i with
    | zero => rfl
    | succ i => exact ih i
  · next ds xs h =>
    cases ds with
    | nil => rfl
    | cons d ds =>
      cases xs with
      | nil => cases (d :: ds)[i]? <;> rfl
      | cons x xs => exact (h d ds x xs rfl rfl).elim

theorem canon_getElem? (E : Env) (descs : List FieldDesc) (o : Obj) (i : Nat) :
    (E.canon descs o).vals[i]? =
      match descs[i]? with
      | some d => o.vals[i]?.map (E.canonLeaf d.cons)
      | none => o.vals[i]? := canonVals_getElem? E descs o.vals i

/-- when the object has fewer leaves both sides read the default leaf, which is opaque -/
theorem canon_field_getElem? (E : Env) (descs : List FieldDesc) (o : Obj) (i : Nat) :
    (E.canon descs o).field i =
      match descs[i]? with
      | some d => E.canonLeaf d.cons (o.field i)
      | none => o.field i := by
  unfold Obj.field
  rw [List.getD_eq_getElem?_getD, List.getD_eq_getElem?_getD, canon_getElem?]
  cases descs[i]? with
  | none => rfl
  | some d => cases o.vals[i]? <;> rfl

theorem canon_field (E : Env) (descs : List FieldDesc) (o : Obj) (i : Nat) (hi : i < descs.length) :
    (E.canon descs o).field i = E.canonLeaf (descs[i]).cons (o.field i) := by
  rw [canon_field_getElem?, List.getElem?_eq_getElem hi]

theorem canon_field_beyond (E : Env) (descs : List FieldDesc) (o : Obj) (i : Nat) (hi : descs.length ≤ i) :
    (E.canon descs o).field i = o.field i := by
  rw [canon_field_getElem?, List.getElem?_eq_none hi]

theorem canon_idem (E : Env) (L : CaseLaws E) (descs : List FieldDesc) (o : Obj) :
    E.canon descs (E.canon descs o) = E.canon descs o := by
  unfold Env.canon
  simp only [canonVals_idem E L]

theorem canon_uuid (E : Env) (descs : List FieldDesc) (o : Obj) :
    (E.canon descs o).uuid = o.uuid ∧ (E.canon descs o).shape = o.shape := ⟨rfl, rfl⟩

/-! ### what is stored is canonical -/

theorem assignNew_vals (o : Obj) (fresh : Nat) : (assignNew o fresh).vals = o.vals := by
  unfold assignNew
  split <;> rfl

theorem assignNew_shape (o : Obj) (fresh : Nat) : (assignNew o fresh).shape = o.shape := by
  unfold assignNew
  split <;> rfl

theorem canon_assignNew (E : Env) (descs : List FieldDesc) (o : Obj) (fresh : Nat) :
    E.canon descs (assignNew o fresh) = assignNew (E.canon descs o) fresh :=
  apply_ite (E.canon descs) _ _ _

theorem storedObj_canonical (E : Env) (L : CaseLaws E) (l : Loaded) (o : Obj) (fresh : Nat) :
    E.canon l.descs (storedObj E l o fresh) = storedObj E l o fresh := by
  unfold storedObj
  rw [canon_assignNew, canon_idem E L]

theorem stored_is_canonical {E : Env} (L : CaseLaws E) {c : Coll} {l : Loaded} (h : Inv' c l) (o : Obj) (fresh : Nat)
    (ht : (storedObj E l o fresh).Typed l.index) (hr : (c.insert E o fresh).2 = Res.ok ()) :
    (c.insert E o fresh).1.view (storedObj E l o fresh).uuid = some (storedObj E l o fresh) ∧
      E.canon l.descs (storedObj E l o fresh) = storedObj E l o fresh ∧
      (∀ i (hi : i < l.descs.length),
        (storedObj E l o fresh).field i = E.canonLeaf (l.descs[i]).cons ((E.transform o).field i)) := by
  refine ⟨insert_accepted_view h o fresh ht hr, storedObj_canonical E L l o fresh, fun i hi => ?_⟩
  rw [← canon_field E l.descs (E.transform o) i hi]
  unfold storedObj Obj.field
  rw [assignNew_vals]

def AllCanon (E : Env) (c : Coll) (l : Loaded) : Prop := ∀ u o, c.view u = some o → E.canon l.descs o = o

theorem insert_keeps_allCanon {E : Env} (L : CaseLaws E) {c : Coll} {l : Loaded} (h : Inv' c l) (o : Obj) (fresh : Nat)
    (ht : (assignNew (E.canon l.descs (E.transform o)) fresh).Typed l.index)
    (hc : AllCanon E c l) : AllCanon E (c.insert E o fresh).1 l := by
  rcases insert_outcome h.toInv o fresh ht with ⟨_, hi⟩ | ⟨ix', _, _, _, hix, hi⟩
  · rw [hi]
    exact hc
  · rw [hi]
    intro u o' (hu : (insState c l (storedObj E l o fresh) ix' true).view u = some o')
    rw [(insState_inv' (o := storedObj E l o fresh) h ht hix true).2, updView_apply] at hu
    split at hu
    · cases hu
      exact storedObj_canonical E L l o fresh
    · exact hc u o' hu

/-! ### what is searched is canonical -/

theorem descPos?_go_spec (p : String) (ds : List FieldDesc) (k i : Nat) (d : FieldDesc) :
    descPos?.go p ds k = some (i, d) → ∃ j, i = k + j ∧ ds[j]? = some d ∧ d.path = p := by
  fun_induction descPos?.go p ds k
  · exact nofun
  · next he =>
    intro h
    cases h
    exact ⟨0, rfl, rfl, beq_iff_eq.mp he⟩
  · next ih =>
    intro h
    obtain ⟨j, rfl, h2, h3⟩ := ih h
    exact ⟨j + 1, Nat.add_right_comm _ 1 j, h2, h3⟩

theorem descPos?_spec {descs : List FieldDesc} {p : String} {i : Nat} {d : FieldDesc}
    (h : descPos? descs p = some (i, d)) : descs[i]? = some d ∧ d.path = p := by
  obtain ⟨j, rfl, h2, h3⟩ := descPos?_go_spec p descs 0 _ d h
  rw [Nat.zero_add]
  exact ⟨h2, h3⟩

theorem prepare_none (E : Env) {descs : List FieldDesc} {field : String} (probe : Leaf)
    (hp : descPos? descs field = none) : E.prepare descs field probe = probe := by
  unfold Env.prepare
  rw [hp]

theorem prepare_eq_canonLeaf (E : Env) {descs : List FieldDesc} {field : String} {i : Nat} {d : FieldDesc}
    (probe : Leaf) (hp : descPos? descs field = some (i, d)) :
    E.prepare descs field probe = E.canonLeaf d.cons probe := by
  unfold Env.prepare
  rw [hp]
  dsimp only
  split
  · rfl
  · next ht => exact (canonLeaf_of_not_transformer E d.cons (Bool.eq_false_iff.mpr ht) probe).symm

theorem prepare_canonLeaf (E : Env) (descs : List FieldDesc) (field : String) :
    ∃ k : Cons, ∀ probe, E.prepare descs field probe = E.canonLeaf k probe := by
  cases hp : descPos? descs field with
  | none => exact ⟨{}, fun probe => (prepare_none E probe hp).trans (canonLeaf_of_not_transformer E {} rfl probe).symm⟩
  | some q => exact ⟨q.2.cons, fun probe => prepare_eq_canonLeaf E probe hp⟩

theorem prepare_v (E : Env) (descs : List FieldDesc) (field : String) (pv : Val) :
    ∃ pv', E.prepare descs field (.v pv) = .v pv' ∧ pv'.tag = pv.tag := by
  obtain ⟨k, hk⟩ := prepare_canonLeaf E descs field
  rw [hk]
  cases pv <;> exact ⟨_, rfl, rfl⟩

theorem prepare_id (E : Env) (descs : List FieldDesc) (field : String) (probe : Leaf)
    (h : ∀ pos d, descPos? descs field = some (pos, d) → d.cons.transformer = false) :
    E.prepare descs field probe = probe := by
  cases hp : descPos? descs field with
  | none => exact prepare_none E _ hp
  | some q => rw [prepare_eq_canonLeaf E _ hp, canonLeaf_of_not_transformer E _ (h _ _ hp)]

theorem prepare_nonstr (E : Env) (descs : List FieldDesc) (field : String) (probe : Leaf)
    (h : ∀ s, probe ≠ .v (.str s)) : E.prepare descs field probe = probe := by
  obtain ⟨k, hk⟩ := prepare_canonLeaf E descs field
  rw [hk, canonLeaf_nonstr E k probe h]

theorem prepare_eq_of_canon_eq (E : Env) (descs : List FieldDesc) (field : String) (i : Nat) (d : FieldDesc)
    (s₁ s₂ : Bytes) (hp : descPos? descs field = some (i, d))
    (he : E.canonBytes d.cons s₁ = E.canonBytes d.cons s₂) :
    E.prepare descs field (.v (.str s₁)) = E.prepare descs field (.v (.str s₂)) := by
  rw [prepare_eq_canonLeaf E _ hp, prepare_eq_canonLeaf E _ hp, canonLeaf_str, canonLeaf_str, he]

theorem prepare_idem (E : Env) (L : CaseLaws E) (descs : List FieldDesc) (field : String) (probe : Leaf) :
    E.prepare descs field (E.prepare descs field probe) = E.prepare descs field probe := by
  obtain ⟨k, hk⟩ := prepare_canonLeaf E descs field
  rw [hk, hk, canonLeaf_idem E L]

theorem canon_field_eq_prepare (E : Env) (descs : List FieldDesc) (field : String) (i : Nat) (d : FieldDesc)
    (o : Obj) (hp : descPos? descs field = some (i, d)) :
    (E.canon descs o).field i = E.prepare descs field (o.field i) := by
  rw [canon_field_getElem?, (descPos?_spec hp).1, prepare_eq_canonLeaf E _ hp]

theorem search_congr_prepare (E : Env) (c : Coll) (l : Loaded) (field : String) (op : Option Op) (p₁ p₂ : Leaf)
    (k : Option FIdx) (hs : c.schema = (c, .ok l)) (he : E.prepare l.descs field p₁ = E.prepare l.descs field p₂) :
    Coll.search E c field op p₁ k = Coll.search E c field op p₂ k := by
  unfold Coll.search
  rw [hs]
  -- what is left is a function of the prepared probe (stated so; `dsimp only` costs twice as much)
  show (fun probe => _) (E.prepare l.descs field p₁) = _
  rw [he]

theorem search_case_insensitive (E : Env) (c : Coll) (l : Loaded) (field : String) (op : Option Op)
    (s₁ s₂ : Bytes) (k : Option FIdx) (i : Nat) (d : FieldDesc)
    (hs : c.schema = (c, .ok l)) (hp : descPos? l.descs field = some (i, d))
    (he : E.canonBytes d.cons s₁ = E.canonBytes d.cons s₂) :
    Coll.search E c field op (.v (.str s₁)) k = Coll.search E c field op (.v (.str s₂)) k :=
  search_congr_prepare E c l field op _ _ k hs (prepare_eq_of_canon_eq E l.descs field i d s₁ s₂ hp he)

set_option linter.unusedVariables false in  -- `ht` is not used
theorem search_canonical_probe (E : Env) (L : CaseLaws E) (c : Coll) (l : Loaded) (field : String) (op : Option Op)
    (s : Bytes) (k : Option FIdx) (i : Nat) (d : FieldDesc)
    (hs : c.schema = (c, .ok l)) (hp : descPos? l.descs field = some (i, d)) (ht : d.cons.transformer = true) :
    Coll.search E c field op (.v (.str (E.canonBytes d.cons s))) k = Coll.search E c field op (.v (.str s)) k :=
  search_case_insensitive E c l field op _ _ k i d hs hp (canonBytes_idem E L d.cons s)

/-! ## Part 2 — C17 -/

theorem compat_fields_iff (stored : List FieldDesc) (live : List (String × String)) :
    descsCompatFields stored live = true ↔
      (∀ d ∈ stored, (d.path, d.type) ∈ live) ∧ (∀ p ∈ live, ∃ d ∈ stored, d.path = p.1 ∧ d.type = p.2) := by
  unfold descsCompatFields
  simp only [Bool.and_eq_true, List.all_eq_true, List.any_eq_true, beq_iff_eq]
  constructor
  · rintro ⟨h1, h2⟩
    refine ⟨fun d hd => ?_, fun p hp => ?_⟩
    · obtain ⟨p, hp, e1, e2⟩ := h1 d hd
      have : p = (d.path, d.type) := Prod.ext e1 e2
      rw [← this]
      exact hp
    · obtain ⟨d, hd, e1, e2⟩ := h2 p hp
      exact ⟨d, hd, e1.symm, e2.symm⟩
  · rintro ⟨h1, h2⟩
    refine ⟨fun d hd => ⟨(d.path, d.type), h1 d hd, rfl, rfl⟩, fun p hp => ?_⟩
    obtain ⟨d, hd, e1, e2⟩ := h2 p hp
    exact ⟨d, hd, e1.symm, e2.symm⟩

theorem compat_fields_false_iff (stored : List FieldDesc) (live : List (String × String)) :
    descsCompatFields stored live = false ↔
      (∃ d ∈ stored, (d.path, d.type) ∉ live) ∨ (∃ p ∈ live, ∀ d ∈ stored, ¬ (d.path = p.1 ∧ d.type = p.2)) := by
  rw [← Bool.not_eq_true, compat_fields_iff, Classical.not_and_iff_not_or_not]
  simp only [Classical.not_forall, not_exists, not_and, exists_prop]

/-! ### every public call is refused, state unchanged

  Each lemma takes the refusal of `c.schema` itself (`load_refused_if_changed` provides it), so that
  the equations say: same `Coll` — hence same `disk`, same `log`, same cache, same pending. -/

section Refused
variable {c : Coll} (h : c.schema = (c, .err .structChanged))
include h

theorem refused_get (u : Nat) : c.get u = (c, .err .structChanged) := by
  unfold Coll.get
  rw [h]

theorem refused_exist (u : Nat) : c.exist u = (c, .err .structChanged) := by
  unfold Coll.exist
  rw [h]

theorem refused_count : c.count = (c, .err .structChanged) := by
  unfold Coll.count
  rw [h]

theorem refused_all : c.all = (c, .err .structChanged, []) := by
  unfold Coll.all
  rw [h]

theorem refused_insert (E : Env) (o : Obj) (fresh : Nat) : c.insert E o fresh = (c, .err .structChanged) := by
  unfold Coll.insert
  rw [h]

theorem refused_delete (u : Nat) : c.delete u = (c, .err .structChanged) := by
  unfold Coll.delete
  rw [h]

theorem refused_deleteList (us : List Nat) : c.deleteList us = (c, .err .structChanged) := by
  unfold Coll.deleteList
  rw [h]

theorem refused_deleteAll : c.deleteAll = (c, .err .structChanged) := by
  unfold Coll.deleteAll
  rw [h]

/-- `InsertOrUpdateMany`: the error is `structChanged` unless the batch is empty or its FIRST object is
    of another Go type (then the schema is not even looked up: ok, resp. `notFound`) -/
theorem refused_many (E : Env) (os : List Obj) (w : Option (Nat × Bool)) (hos : os ≠ [])
    (hw : w.map (·.1) ≠ some 0) : c.many E os w = (c, 0, .err .structChanged) := by
  rw [many_unfold hos hw, h]

theorem refused_many_state (E : Env) (os : List Obj) (w : Option (Nat × Bool)) : (c.many E os w).1 = c := by
  by_cases hos : os = []
  · rw [hos, many_nil]
  by_cases hw : w.map (·.1) = some 0
  · rw [many_foreign_first hos hw]
  · rw [refused_many h E os w hos hw]

theorem refused_bulk_state (E : Env) (os : List Obj) (k : Nat) : (c.bulk E os k).1 = c := by
  unfold Coll.bulk
  generalize chunks k os = chs
  generalize (0 : Nat) = n
  fun_induction Coll.bulk.go E c n chs
  · rfl
  · next hm ih =>
    cases (congrArg Prod.fst hm).symm.trans (refused_many_state h E _ none)
    exact ih h
  · next hm => exact (congrArg Prod.fst hm).symm.trans (refused_many_state h E _ none)

theorem refused_commit : c.commitCall = (c, .err .structChanged) := by
  unfold Coll.commitCall
  rw [h]

theorem refused_create (descs : List FieldDesc) (st : Settings) : c.create descs st = (c, .err .structChanged) := by
  unfold Coll.create
  rw [h]

theorem refused_repair : c.repair = (c, .err .structChanged) := by
  unfold Coll.repair
  rw [h]

theorem refused_search (E : Env) (f : String) (op : Option Op) (p : Leaf) (k : Option FIdx) :
    Coll.search E c f op p k = (c, Search.failed .structChanged) := by
  unfold Coll.search
  rw [h]

theorem refused_search_err (E : Env) (f : String) (op : Option Op) (p : Leaf) (k : Option FIdx) :
    (Coll.search E c f op p k).1 = c ∧ (Coll.search E c f op p k).2.err = some .structChanged ∧
    (Coll.search E c f op p k).2.fields = [] := by
  rw [refused_search h]
  exact ⟨rfl, rfl, rfl⟩

theorem refused_assignIndex (f : String) : c.assignIndex f = (c, .err .structChanged) := by
  unfold Coll.assignIndex
  rw [h]

theorem refused_collect (s : Search) (hs : s.err = none) : c.collect s = (c, s, [], some .structChanged) := by
  unfold Coll.collect
  rw [hs]
  simp only
  rw [h]

theorem refused_searchDelete (s : Search) (hs : s.err = none) : c.searchDelete s = (c, .err .structChanged) := by
  unfold Coll.searchDelete
  rw [hs]
  simp only
  rw [h]

end Refused

theorem refused_flushAllAndCommit {c : Coll} (h : c.schema = (c, .err .structChanged)) (hp : c.pending = []) :
    c.flushAllAndCommit = (c, .err .structChanged) := by
  unfold Coll.flushAllAndCommit
  simp only [flushAll_idem c hp]
  rw [h]

theorem every_call_refused {c : Coll} {img : SchemaImg} (hm : c.mem = none) (hd : c.disk.schema = some img)
    (hc : descsCompatFields img.descs c.live = false) :
    (∀ u, c.get u = (c, .err .structChanged)) ∧
    (∀ u, c.exist u = (c, .err .structChanged)) ∧
    c.count = (c, .err .structChanged) ∧
    c.all = (c, .err .structChanged, []) ∧
    (∀ E o fresh, c.insert E o fresh = (c, .err .structChanged)) ∧
    (∀ u, c.delete u = (c, .err .structChanged)) ∧
    c.deleteAll = (c, .err .structChanged) ∧
    (∀ E os w, os ≠ [] → w.map (·.1) ≠ some 0 → c.many E os w = (c, 0, .err .structChanged)) ∧
    (∀ E os w, (c.many E os w).1 = c) ∧
    c.commitCall = (c, .err .structChanged) ∧
    (c.pending = [] → c.flushAllAndCommit = (c, .err .structChanged)) ∧
    (∀ descs st, c.create descs st = (c, .err .structChanged)) ∧
    c.repair = (c, .err .structChanged) ∧
    (∀ E f op p k, Coll.search E c f op p k = (c, Search.failed .structChanged)) :=
  have h := load_refused_if_changed hm hd hc
  ⟨refused_get h, refused_exist h, refused_count h, refused_all h, refused_insert h, refused_delete h,
    refused_deleteAll h, fun E os w => refused_many h E os w, refused_many_state h, refused_commit h,
    refused_flushAllAndCommit h, refused_create h, refused_repair h, refused_search h⟩

theorem every_call_refused_disk_log {c : Coll} {img : SchemaImg} (hm : c.mem = none) (hd : c.disk.schema = some img)
    (hc : descsCompatFields img.descs c.live = false) (E : Env) (o : Obj) (fresh u : Nat) :
    (c.insert E o fresh).1.disk = c.disk ∧ (c.insert E o fresh).1.log = c.log ∧
    (c.delete u).1.disk = c.disk ∧ (c.delete u).1.log = c.log ∧
    c.deleteAll.1.disk = c.disk ∧ c.deleteAll.1.log = c.log ∧
    c.repair.1.disk = c.disk ∧ c.repair.1.log = c.log := by
  have h := load_refused_if_changed hm hd hc
  rw [refused_insert h, refused_delete h, refused_deleteAll h, refused_repair h]
  exact ⟨rfl, rfl, rfl, rfl, rfl, rfl, rfl, rfl⟩

/-! ### `Create` on an empty directory -/

/-- the state after a first `DB.Create`: directory made, schema file written, schema loaded.  Unlike
    `emptyColl` (Proofs/Refine.lean) its flusher flag is `false`: with asynchronous settings `Inv.flusher` fails
    until the next access starts the flusher (`created_inv` is the synchronous case). -/
def created (live : List (String × String)) (descs : List FieldDesc) (st : Settings) : Coll :=
  { live := live
    disk := { dir := true, schema := some ⟨descs, st, ObjIndex.new descs⟩ }
    mem := some { descs := descs, settings := st, index := ObjIndex.new descs }
    log := [.mkdir, .writeSchema ⟨descs, st, ObjIndex.new descs⟩] }

theorem create_first {live : List (String × String)} {descs : List FieldDesc} (st : Settings)
    (hk : descsCompatFields descs live = true) :
    ({ live := live } : Coll).create descs st = (created live descs st, .ok ()) := by
  have hc : controlLoaded live (created live descs st).disk
      { descs := descs, settings := st, index := ObjIndex.new descs } = .ok () :=
    control_ok_of hk (new_wf descs) fun _ => ⟨nofun, nofun⟩
  unfold Coll.create
  rw [schema_missing rfl rfl]
  dsimp only
  -- the goal has the arguments of `hc` unevaluated (`mkdir`, `writeSchema` on the empty handle), so no `rw [hc]`
  generalize hr : controlLoaded _ _ { descs := descs, settings := st, index := ObjIndex.new descs } = r
  cases hr.symm.trans hc
  rfl

theorem created_inv {live : List (String × String)} {descs : List FieldDesc} {st : Settings} (hs : st.async = none) :
    Inv' (created live descs st) { descs := descs, settings := st, index := ObjIndex.new descs } :=
  inv_empty rfl rfl rfl rfl rfl fun h => by rw [hs] at h; cases h

/-! ### `Create` on a loaded collection -/

theorem create_incompatible_frame {c : Coll} {l : Loaded} (descs : List FieldDesc) (st : Settings) (e : Err)
    (hs : c.schema = (c, .ok l)) (hc : compatErr l st.ext descs = some e) : c.create descs st = (c, .err e) := by
  unfold Coll.create
  rw [hs]
  simp only [hc]

theorem ite_eq_iff {α : Sort _} {p : Prop} [Decidable p] {a b c : α} :
    (if p then a else b) = c ↔ (p ∧ a = c) ∨ (¬ p ∧ b = c) := by
  split <;> simp [*]

theorem compatErr_none_iff (l : Loaded) (ext : String) (descs : List FieldDesc) :
    compatErr l ext descs = none ↔
      l.settings.ext = ext ∧
      (∀ d ∈ l.descs, ∃ e ∈ descs, e.path = d.path) ∧
      (∀ d ∈ descs, ∃ e ∈ l.descs, e.path = d.path) ∧
      (∀ d ∈ l.descs, ∀ e ∈ descs, e.path = d.path → e.type = d.type ∧ e.cons = d.cons) := by
  -- the Boolean checks as propositions, in the order of the `if`s: extension, every stored path declared (`hA`),
  -- type and constraints unchanged (`hC`), every declared path stored (`hB`)
  simp only [compatErr, ite_eq_iff, reduceCtorEq, and_false, false_or, and_true, bne_iff_ne, ne_eq,
    Bool.not_eq_false, Decidable.not_not, Bool.not_eq_eq_eq_not, Bool.not_true, List.all_eq_true, List.any_eq_true,
    beq_iff_eq, Bool.or_eq_true, Bool.and_eq_true]
  constructor
  · rintro ⟨h0, hA, hC, hB⟩
    exact ⟨h0, hA, hB, fun d hd e he hp => (hC d hd e he).resolve_left (fun hn => hn hp)⟩
  · rintro ⟨h0, hA, hB, hC⟩
    exact ⟨h0, hA, fun d hd e he => Decidable.not_or_of_imp (hC d hd e he), hB⟩

theorem compatErr_congr {l l' : Loaded} (hd : l.descs = l'.descs) (he : l.settings.ext = l'.settings.ext)
    (ext : String) (descs : List FieldDesc) : compatErr l ext descs = compatErr l' ext descs := by
  unfold compatErr
  rw [hd, he]

theorem compatErr_cases (l : Loaded) (ext : String) (descs : List FieldDesc) :
    compatErr l ext descs = none ∨ compatErr l ext descs = some .extMismatch ∨
    compatErr l ext descs = some .unknownField ∨ compatErr l ext descs = some .descModif := by
  fun_cases compatErr l ext descs
  · exact Or.inr (Or.inl rfl)
  · exact Or.inr (Or.inr (Or.inl rfl))
  · exact Or.inr (Or.inr (Or.inr rfl))
  · exact Or.inr (Or.inr (Or.inl rfl))
  · exact Or.inl rfl

/-! ### a compatible `Create` (switch of cache/async settings) keeps the objects -/

/-- `PendNodup` (Proofs/Async.lean) spelled out, the form the C17 theorems are stated with; `put` erases
    first, so the calls keep it (`call_inv`); not part of `Inv` -/
def PendNodupC (c : Coll) : Prop := (c.pending.map (·.1)).Nodup

theorem pendNodup_steps (c : Coll) (hn : PendNodupC c) (o : Obj) (u : Nat) :
    PendNodupC { c with pending := c.pending.put o } ∧ PendNodupC { c with pending := c.pending.erase u } ∧
    PendNodupC { c with pending := [] } :=
  ⟨OMap.keys_nodup_putR hn o, OMap.keys_nodup_eraseR hn u, List.nodup_nil⟩

theorem flushAllC_view {c : Coll} (hk : c.pending.Keyed) (hn : PendNodupC c) : c.flushAll.view = c.view :=
  flushAll_view hk hn

/-- without `PendNodupC` this is false, even on keyed pending stores: the view reads the FIRST entry
    of an identifier, the flush leaves the LAST one in the file -/
theorem flushAllC_view_counterexample :
    ∃ c : Coll, c.pending.Keyed ∧ c.flushAll.view ≠ c.view :=
  ⟨AsyncCounter.c1, AsyncCounter.inv1.keyedP, AsyncCounter.flushAll_view_ne⟩

/-- the schema a compatible `Create` leaves in the handle -/
def createLoaded (l : Loaded) (st : Settings) : Loaded :=
  startFlusher { l with settings := { l.settings with cache := st.cache, async := st.async } }

def createState (c : Coll) (l : Loaded) (st : Settings) : Coll :=
  (({ c.flushAll with cache := [] } : Coll).setMem (createLoaded l st)).commit (createLoaded l st)

theorem create_compatible_eq {c : Coll} {l : Loaded} (descs : List FieldDesc) (st : Settings)
    (hs : c.schema = (c, .ok l)) (hc : compatErr l st.ext descs = none) :
    c.create descs st = (createState c l st, .ok ()) := by
  unfold Coll.create
  rw [hs]
  simp only [hc]
  rfl

theorem createLoaded_descs (l : Loaded) (st : Settings) : (createLoaded l st).descs = l.descs :=
  startFlusher_descs _

theorem createLoaded_index (l : Loaded) (st : Settings) : (createLoaded l st).index = l.index :=
  startFlusher_index _

theorem createLoaded_settings (l : Loaded) (st : Settings) :
    (createLoaded l st).settings = { l.settings with cache := st.cache, async := st.async } :=
  startFlusher_settings _

theorem createLoaded_flusher (l : Loaded) (st : Settings) (h : (createLoaded l st).settings.async.isSome = true) :
    (createLoaded l st).flusher = true :=
  startFlusher_flusher (startFlusher_idem _) h

theorem createState_pending (c : Coll) (l : Loaded) (st : Settings) : (createState c l st).pending = [] :=
  commit_pending _ _

theorem createState_cache (c : Coll) (l : Loaded) (st : Settings) : (createState c l st).cache = [] :=
  commit_cache _ _

theorem createState_mem (c : Coll) (l : Loaded) (st : Settings) :
    (createState c l st).mem = some (createLoaded l st) :=
  commit_mem _ _

theorem createState_files (c : Coll) (l : Loaded) (st : Settings) :
    (createState c l st).disk.files = c.flushAll.disk.files :=
  commit_files _ _

theorem createState_view (c : Coll) (l : Loaded) (st : Settings) : (createState c l st).view = c.flushAll.view :=
  view_congr (createState_pending c l st) (createState_files c l st)

/-- `createState` is the flushed state (`flushAll_inv`) with an empty cache and the settings changed -/
theorem createState_inv {c : Coll} {l : Loaded} (st : Settings) (h : Inv' c l) (hn : PendNodup c) :
    Inv' (createState c l st) (createLoaded l st) ∧ (createState c l st).view = c.view := by
  have hF := flushAll_inv h hn
  have hv := createState_view c l st
  have hix := createLoaded_index l st
  refine ⟨inv_fresh (createState_mem c l st) ?_ ?_ (createState_files c l st ▸ hF.keyedF)
    (createState_pending c l st) (createState_cache c l st) (createLoaded_flusher l st),
    hv.trans (flushAll_view h.keyedP hn)⟩
  · rw [hix, hv]
    exact hF.toInv.indexes
  · rw [hix, hv]
    exact hF.typed

theorem create_idempotent_view {c : Coll} {l : Loaded} (descs : List FieldDesc) (st : Settings)
    (h : Inv' c l) (hn : PendNodupC c) (hc : compatErr l st.ext descs = none) :
    (c.create descs st).2 = .ok () ∧ (c.create descs st).1.pending = [] ∧ (c.create descs st).1.cache = [] ∧
    (c.create descs st).1.view = c.view ∧ Inv' (c.create descs st).1 (createLoaded l st) := by
  rw [create_compatible_eq descs st (schema_of_inv h.toInv) hc]
  obtain ⟨hi, hv⟩ := createState_inv st h hn
  exact ⟨rfl, createState_pending c l st, createState_cache c l st, hv, hi⟩

/-- `PendNodupC` cannot be dropped from `create_idempotent_view`: on the handle of `AsyncCounter`
    (object 5 pending twice, `o5` then `o5'`; it denotes `o5`) a compatible `Create` flushes both and
    ends denoting `o5'` -/
theorem create_idempotent_view_counterexample :
    ∃ (c : Coll) (l : Loaded) (descs : List FieldDesc) (st : Settings), Inv' c l ∧
      compatErr l st.ext descs = none ∧ (c.create descs st).2 = .ok () ∧ (c.create descs st).1.view ≠ c.view := by
  refine ⟨AsyncCounter.c1, AsyncCounter.l1, [], {}, AsyncCounter.inv1, rfl, rfl, fun he => ?_⟩
  rw [create_compatible_eq [] {} (schema_of_inv AsyncCounter.inv1.toInv) rfl] at he
  exact AsyncCounter.flushAll_view_ne ((createState_view _ _ _).symm.trans he)

end Sod
