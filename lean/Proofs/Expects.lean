/-
  Expects.lean — `Search.expects` (`Expects` / `ExpectsZeroOrN`): it leaves a failed search alone, and on
  a good one only sets the error, to `unexpectedN`, exactly when the count is not the expected one.
-/
import SodModel.Search
namespace Sod

theorem expects_failed (s : Search) (z : Bool) (n : Nat) (e : Err) (h : s.err = some e) :
    s.expects z n = s := by
  unfold Search.expects
  rw [h]

theorem expects_of_ok (s : Search) (z : Bool) (n : Nat) (h : s.err = none) :
    s.expects z n = if s.fields.length = n ∨ (z = true ∧ s.fields.length = 0) then s
      else { s with err := some .unexpectedN } := by
  unfold Search.expects
  rw [h]
  simp only [Bool.or_eq_true, beq_iff_eq, Bool.and_eq_true]

theorem expects_fields (s : Search) (z : Bool) (n : Nat) : (s.expects z n).fields = s.fields := by
  cases h : s.err with
  | some e => rw [expects_failed s z n e h]
  | none =>
    rw [expects_of_ok s z n h]
    split <;> rfl

theorem expects_ok_iff (s : Search) (z : Bool) (n : Nat) (h : s.err = none) :
    (s.expects z n).err = none ↔ (s.fields.length = n ∨ (z = true ∧ s.fields.length = 0)) := by
  rw [expects_of_ok s z n h]
  split
  · next hc => exact ⟨fun _ => hc, fun _ => h⟩
  · next hc => exact ⟨fun he => (nomatch he), fun hc' => absurd hc' hc⟩

theorem expects_err_class (s : Search) (z : Bool) (n : Nat) (h : s.err = none)
    (hn : ¬ (s.fields.length = n ∨ (z = true ∧ s.fields.length = 0))) :
    (s.expects z n).err = some Err.unexpectedN := by
  rw [expects_of_ok s z n h, if_neg hn]

end Sod
