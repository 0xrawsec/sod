/-
  Collection-level theorems about searching (`Coll.search`, `searchAnd`, `searchOr`, `collect`, `one`,
  `searchDelete`, `assignIndex`), for C02, C12, C13, C19 and C20.  A search returns exactly the matching
  objects (`Exact`) because on both paths the result is a column (the rows of the leaf, `Column`)
  filtered by the operator, with the matcher the scan evaluates: `Column.exact` serves the indexed path
  and the scan alike, and the two can be compared (`index_independent`).
-/
import Proofs.Crud
namespace Sod

def Matches (c : Coll) (m : Matcher) (op : Op) (pos : Nat) (v : Val) (u : Nat) : Prop :=
  ∃ o x, c.view u = some o ∧ o.field pos = .v x ∧ Val.eval m op x v = true

def Denotes (l : Loaded) (fs : FIdx) (u : Nat) : Prop := ∃ e ∈ fs, l.index.uuidOf e.2 = some u

theorem field?_mem {ix : ObjIndex} {field : String} {fi : FieldIdx} (h : ix.field? field = some fi) :
    fi ∈ ix.fields :=
  List.mem_of_find?_eq_some h

/-! ### what `search` answers (C19) -/

/-- the matcher `search` hands to the operators of the index: only a string probe carries a pattern -/
def Env.probeMatcher (E : Env) : Val → Option Matcher
  | .str s => E.compile s
  | _ => none

/-- the matcher the scan of `searchAll` evaluates: only `re` on a string probe has one to compile -/
def Env.scanMatcher (E : Env) : Op → Val → Option Matcher
  | .re, .str s => E.compile s
  | _, _ => some (fun _ => false)

theorem probeMatcher_str (E : Env) (s : Bytes) : E.probeMatcher (.str s) = E.compile s := rfl

theorem scanMatcher_re_str (E : Env) (s : Bytes) : E.scanMatcher .re (.str s) = E.compile s := rfl

theorem scanMatcher_of_ne_re (E : Env) {op : Op} (hop : op ≠ .re) (pv : Val) :
    E.scanMatcher op pv = some (fun _ => false) := by
  cases op <;> first | rfl | exact absurd rfl hop

def FieldIdx.constrained (fi : FieldIdx) : Option FIdx → FIdx
  | some cs => fi.idx.constrain cs
  | none => fi.idx

/-- `search` once an indexed field and a probe of its kind are accepted: operator, then the operators
    of the index -/
def Env.viaIndex (E : Env) (c : Coll) (fi : FieldIdx) (pv : Val) (op : Option Op) (k : Option FIdx) :
    Coll × Search :=
  match op with
  | none => (c, Search.failed .unknownOp)
  | some op =>
    match ObjIndex.searchOp (E.probeMatcher pv) op (fi.constrained k) pv with
    | .ok r => (c, { fields := r, orderPos := some fi.pos })
    | .err e => (c, Search.failed e)
    | .panic => (c, Search.failed .other)

/-- `search` once a described leaf without index and a probe of its kind are accepted (`searchAll`):
    operator, pattern, scan -/
def Env.viaScan (E : Env) (c : Coll) (l : Loaded) (pos : Nat) (pv : Val) (op : Option Op) (k : Option FIdx) :
    Coll × Search :=
  match op with
  | none => (c, Search.failed .unknownOp)
  | some op =>
    match E.scanMatcher op pv with
    | none => (c, Search.failed .pattern)
    | some m =>
      match Coll.scan c l m op pos pv
          (match k with | some cs => cs.filterMap (fun e => l.index.uuidOf e.2) | none => l.index.uuids) [] with
      | (c, r, none) => (c, { fields := r, orderPos := none })
      | (c, _, some e) => (c, Search.failed e)

theorem search_eq (E : Env) (c : Coll) (field : String) (op : Option Op) (probe : Leaf) (k : Option FIdx) :
    Coll.search E c field op probe k =
      match c.schema with
      | (c, .ok l) =>
        if !pathResolvable c.live field then (c, Search.failed .unknownField) else
        match E.prepare l.descs field probe with
        | .opaque _ => (c, Search.failed .keyType)
        | .v pv =>
          match l.index.field? field with
          | some fi => if fi.cast != pv.tag then (c, Search.failed .cast) else E.viaIndex c fi pv op k
          | none =>
            match descPos? l.descs field with
            | none => (c, Search.failed .keyType)
            | some (pos, d) =>
              match d.cast with
              | none => (c, Search.failed .keyType)
              | some t => if t != pv.tag then (c, Search.failed .cast) else E.viaScan c l pos pv op k
      | (c, .err e) => (c, Search.failed e)
      | (c, .panic) => (c, Search.failed .other) :=
  rfl

theorem search_indexed_path {E : Env} {c c' : Coll} {l : Loaded} {field : String} {fi : FieldIdx} {probe : Leaf}
    {pv : Val} (hs : c.schema = (c', .ok l)) (hr : pathResolvable c'.live field = true)
    (hp : E.prepare l.descs field probe = .v pv) (hi : l.index.field? field = some fi) (op : Option Op)
    (k : Option FIdx) :
    Coll.search E c field op probe k =
      if pv.tag = fi.cast then E.viaIndex c' fi pv op k else (c', Search.failed .cast) := by
  rw [search_eq, hs]
  simp only [hr, hp, hi, Bool.not_true, Bool.false_eq_true, if_false, bne_iff_ne, ne_eq, ite_not,
    @eq_comm _ fi.cast pv.tag]

theorem search_scan_path {E : Env} {c c' : Coll} {l : Loaded} {field : String} {probe : Leaf} {pv : Val}
    {pos : Nat} {d : FieldDesc} {t : Tag} (hs : c.schema = (c', .ok l)) (hr : pathResolvable c'.live field = true)
    (hp : E.prepare l.descs field probe = .v pv) (hi : l.index.field? field = none)
    (hd : descPos? l.descs field = some (pos, d)) (hc : d.cast = some t) (op : Option Op) (k : Option FIdx) :
    Coll.search E c field op probe k =
      if t = pv.tag then E.viaScan c' l pos pv op k else (c', Search.failed .cast) := by
  rw [search_eq, hs]
  simp only [hr, hp, hi, hd, hc, Bool.not_true, Bool.false_eq_true, if_false, bne_iff_ne, ne_eq, ite_not]

/-- the classes with which `search` refuses its arguments, or its scan fails -/
def searchErrs : List Err := [.unknownField, .keyType, .cast, .unknownOp, .pattern, .corrupted, .notFound]

theorem mem_searchErrs {e : Err} :
    e ∈ searchErrs ↔ e = .unknownField ∨ e = .keyType ∨ e = .cast ∨ e = .unknownOp ∨ e = .pattern ∨ e = .corrupted ∨
      e = .notFound := by
  simp only [searchErrs, List.mem_cons, List.not_mem_nil, or_false]

def Answers (op : Option Op) (s : Search) : Prop :=
  (s.err = none ∧ op ≠ none) ∨ ∃ e ∈ searchErrs, s = Search.failed e

theorem Answers.failed (op : Option Op) {e : Err} (h : e ∈ searchErrs) : Answers op (Search.failed e) :=
  Or.inr ⟨e, h, rfl⟩

theorem viaIndex_answers (E : Env) (c : Coll) (fi : FieldIdx) (pv : Val) (op : Option Op) (k : Option FIdx) :
    Answers op (E.viaIndex c fi pv op k).2 := by
  unfold Env.viaIndex
  split
  · exact .failed _ (by decide)
  rcases searchOp_cases (E.probeMatcher pv) _ _ pv with ⟨r, h⟩ | h <;> rw [h]
  · exact Or.inl ⟨rfl, nofun⟩
  · exact .failed _ (by decide)

/-- the scan of an unindexed search fails with `corrupted` (an object the index does not know),
    `keyType` (an opaque value) or `notFound` (an object that cannot be read) -/
theorem scan_err_classes {l : Loaded} {m : Matcher} {op : Op} {pos : Nat} {probe : Val} :
    ∀ {us : List Nat} {c : Coll} {acc : FIdx} {c' : Coll} {r : FIdx} {e : Err}, c.mem.isSome = true →
      Coll.scan c l m op pos probe us acc = (c', r, some e) →
      e = .corrupted ∨ e = .keyType ∨ e = .notFound := by
  intro us
  induction us with
  | nil =>
    intro c acc c' r e _ h
    cases h
  | cons u us ih =>
    intro c acc c' r e hm h
    rw [Coll.scan] at h
    obtain ⟨hm1, ⟨o, hg⟩ | hg⟩ := get_of_mem hm u
    · rw [show c.get u = ((c.get u).1, Res.ok o) from Prod.ext rfl hg] at h
      simp only [] at h
      split at h
      · cases h
        exact Or.inl rfl
      · split at h
        · exact ih hm1 h
        · cases h
          exact Or.inr (Or.inl rfl)
    · rw [show c.get u = ((c.get u).1, Res.err .notFound) from Prod.ext rfl hg] at h
      cases h
      exact Or.inr (Or.inr rfl)

theorem viaScan_answers (E : Env) {c : Coll} (hm : c.mem.isSome = true) (l : Loaded) (pos : Nat) (pv : Val)
    (op : Option Op) (k : Option FIdx) : Answers op (E.viaScan c l pos pv op k).2 := by
  unfold Env.viaScan
  split
  · exact .failed _ (by decide)
  split
  · exact .failed _ (by decide)
  split
  · exact Or.inl ⟨rfl, nofun⟩
  · next hsc =>
    rcases scan_err_classes hm hsc with rfl | rfl | rfl <;> exact .failed _ (by decide)

theorem search_outcome (E : Env) (c : Coll) (field : String) (op : Option Op) (probe : Leaf) (k : Option FIdx) :
    Answers op (Coll.search E c field op probe k).2 ∨
    ∃ e, (c.schema).2 = .err e ∧ (Coll.search E c field op probe k).2 = Search.failed e := by
  rw [search_eq]
  split
  · next c' l hs =>
    refine Or.inl ?_
    by_cases hr : (!pathResolvable c'.live field) = true
    · rw [if_pos hr]
      exact .failed op (by decide) -- unknownField
    rw [if_neg hr]
    split
    · exact .failed op (by decide) -- keyType: opaque probe
    split
    · split
      · exact .failed op (by decide) -- cast: the probe's tag is not the index's
      · exact viaIndex_answers ..
    split
    · exact .failed op (by decide) -- keyType: field not described
    split
    · exact .failed op (by decide) -- keyType: described without a cast
    split
    · exact .failed op (by decide) -- cast: the probe's tag is not the described one
    · exact viaScan_answers E (by rw [schema_ok_mem hs]; rfl) ..
  · next hs => exact Or.inr ⟨_, by rw [hs], rfl⟩
  · next hs => exact absurd (by rw [hs]) (schema_no_panic c)

theorem search_failed_of (E : Env) (c : Coll) (field : String) (op : Option Op) (probe : Leaf) (k : Option FIdx)
    (hx : ¬ ((Coll.search E c field op probe k).2.err = none ∧ op ≠ none)) :
    ∃ e, (Coll.search E c field op probe k).2 = Search.failed e := by
  rcases search_outcome E c field op probe k with (h | ⟨e, _, h⟩) | ⟨e, _, h⟩
  · exact absurd h hx
  · exact ⟨e, h⟩
  · exact ⟨e, h⟩

theorem search_failed (E : Env) (c : Coll) (field : String) (op : Option Op) (probe : Leaf) (k : Option FIdx)
    (hne : (Coll.search E c field op probe k).2.err ≠ none) :
    ∃ e, (Coll.search E c field op probe k).2 = Search.failed e :=
  search_failed_of E c field op probe k fun h => hne h.1

theorem search_failed_limit (E : Env) (c : Coll) (field : String) (op : Option Op) (probe : Leaf) (k : Option FIdx) :
    (Coll.search E c field op probe k).2.err ≠ none → (Coll.search E c field op probe k).2.limit = 0 := by
  intro hne
  obtain ⟨e, h⟩ := search_failed E c field op probe k hne
  rw [h]
  rfl

theorem search_none_failed (E : Env) (c : Coll) (field : String) (probe : Leaf) (k : Option FIdx) :
    ∃ e, (Coll.search E c field none probe k).2 = Search.failed e :=
  search_failed_of E c field none probe k fun h => h.2 rfl

theorem unknown_operator (E : Env) {c : Coll} {l : Loaded} (_h : Inv' c l) (field : String) (probe : Leaf)
    (k : Option FIdx) : (Coll.search E c field none probe k).2.err ≠ none := by
  obtain ⟨e, h⟩ := search_none_failed E c field probe k
  rw [h]
  exact nofun

theorem unknown_operator_indexed (E : Env) {c : Coll} {l : Loaded} (h : Inv' c l) {field : String} {fi : FieldIdx}
    (hi : l.index.field? field = some fi) (hr : pathResolvable c.live field = true)
    {probe : Leaf} {pv : Val} (hp : E.prepare l.descs field probe = .v pv) (ht : pv.tag = fi.cast) (k : Option FIdx) :
    Coll.search E c field none probe k = (c, Search.failed .unknownOp) := by
  rw [search_indexed_path (schema_of_inv h.toInv) hr hp hi, if_pos ht]
  rfl

theorem search_err_mem {E : Env} {c : Coll} {field : String} {op : Option Op} {probe : Leaf} {k : Option FIdx}
    {e : Err} (he : (Coll.search E c field op probe k).2.err = some e) :
    e ∈ searchErrs ∨ (c.schema).2 = .err e := by
  rcases search_outcome E c field op probe k with (⟨h, _⟩ | ⟨e', hc, h⟩) | ⟨e', hs, h⟩
  · rw [h] at he
    cases he
  · rw [h] at he
    cases he
    exact Or.inl hc
  · rw [h] at he
    cases he
    exact Or.inr hs

/-- `other` stands for a panic of the schema access -/
theorem search_err_classes (E : Env) (c : Coll) (field : String) (op : Option Op) (probe : Leaf) (k : Option FIdx) :
    ∀ e, (Coll.search E c field op probe k).2.err = some e →
      e = .unknownField ∨ e = .keyType ∨ e = .cast ∨ e = .unknownOp ∨ e = .pattern ∨ e = .corrupted ∨
      e = .notFound ∨ e = .other ∨ (∃ e', (c.schema).2 = .err e' ∧ e = e') := by
  intro e he
  have h : e ∈ searchErrs ∨ e = .other ∨ ∃ e', (c.schema).2 = .err e' ∧ e = e' :=
    (search_err_mem he).imp_right fun hs => .inr ⟨e, hs, rfl⟩
  simpa only [mem_searchErrs, or_assoc] using h

theorem failed_collect (c : Coll) (s : Search) (e : Err) (h : s.err = some e) : Coll.collect c s = (c, s, [], some e) := by
  unfold Coll.collect
  rw [h]

theorem failed_one (c : Coll) (s : Search) (e : Err) (h : s.err = some e) :
    (Coll.one c s).2.2 = .err e ∧ (Coll.one c s).1 = c := by
  unfold Coll.one
  rw [h]
  exact ⟨rfl, rfl⟩

theorem failed_searchDelete (c : Coll) (s : Search) (e : Err) (h : s.err = some e) : Coll.searchDelete c s = (c, .err e) := by
  unfold Coll.searchDelete
  rw [h]

theorem failed_and_or (E : Env) (c : Coll) (s : Search) (field : String) (op : Option Op) (probe : Leaf) (e : Err)
    (h : s.err = some e) :
    Coll.searchAnd E c s field op probe = (c, s) ∧ Coll.searchOr E c s field op probe = (c, s) := by
  unfold Coll.searchAnd Coll.searchOr
  rw [h]
  exact ⟨rfl, rfl⟩

/-! ### the objects a result designates -/

structure Exact (l : Loaded) (fs : FIdx) (M : Nat → Prop) : Prop where
  sound : ∀ e ∈ fs, ∃ u, l.index.uuidOf e.2 = some u ∧ M u
  complete : ∀ u, M u → ∃ e ∈ fs, l.index.uuidOf e.2 = some u
  nodup : (fs.map (·.2)).Nodup

theorem Exact.denotes {l : Loaded} {fs : FIdx} {M : Nat → Prop} (h : Exact l fs M) (u : Nat) :
    Denotes l fs u ↔ M u := by
  constructor
  · rintro ⟨e, he, hu⟩
    obtain ⟨u', hu', hm⟩ := h.sound e he
    exact Option.some.inj (hu.symm.trans hu') ▸ hm
  · exact h.complete u

/-- `base` holds the row (value at leaf `pos`, oid) of every stored object, once: what `Reflects` says
    of a field index, and what the scan of `searchAll` reads -/
structure Column (c : Coll) (l : Loaded) (pos : Nat) (base : FIdx) : Prop where
  mem : ∀ e : Entry, e ∈ base ↔ ∃ u o, (e.2, u) ∈ l.index.ids ∧ c.view u = some o ∧ o.field pos = .v e.1
  nodup : (base.map (·.2)).Nodup

theorem Column.exact {c : Coll} {l : Loaded} {pos : Nat} {base : FIdx} (h : Inv c l) (hb : Column c l pos base)
    (m : Matcher) (op : Op) (pv : Val) :
    Exact l (base.filter (fun e => Val.eval m op e.1 pv)) (Matches c m op pos pv) := by
  refine ⟨fun e he => ?_, ?_, hb.nodup.sublist (List.filter_sublist.map _)⟩
  · obtain ⟨he1, he2⟩ := List.mem_filter.mp he
    obtain ⟨u, o, h1, h2, h3⟩ := (hb.mem e).mp he1
    exact ⟨u, uuidOf_of_mem h.wf.oidNodup h1, o, e.1, h2, h3, he2⟩
  · rintro u ⟨o, x, h1, h2, h3⟩
    obtain ⟨oid, ho, hu⟩ := view_oid h h1
    exact ⟨(x, oid), List.mem_filter.mpr ⟨(hb.mem (x, oid)).mpr ⟨u, o, oidOf_mem ho, h1, h2⟩, h3⟩, hu⟩

theorem column_of_index {c : Coll} {l : Loaded} (h : Inv c l) {fi : FieldIdx} (hmem : fi ∈ l.index.fields) :
    Column c l fi.pos fi.idx :=
  ⟨h.refl.mem_idx fi hmem, (h.wf.fields fi hmem).nodup h.wf.oidNodup⟩

/-! #### `Or`: the union by oid -/

theorem searchOr_eq (E : Env) (c : Coll) (s0 : Search) (field : String) (op : Option Op) (probe : Leaf)
    (hs0 : s0.err = none) :
    (Coll.searchOr E c s0 field op probe).1 = (Coll.search E c field op probe none).1 ∧
    (Coll.searchOr E c s0 field op probe).2.err = (Coll.search E c field op probe none).2.err ∧
    (Coll.searchOr E c s0 field op probe).2.fields =
      (Coll.search E c field op probe none).2.fields ++
        s0.fields.filter (fun f => !((Coll.search E c field op probe none).2.fields.any (fun g => g.2 == f.2))) := by
  unfold Coll.searchOr
  rw [hs0]
  exact ⟨rfl, rfl, rfl⟩

theorem mem_union_by_oid (n s : FIdx) (e : Entry) :
    e ∈ n ++ s.filter (fun f => !(n.any (fun g => g.2 == f.2))) ↔ e ∈ n ∨ (e ∈ s ∧ ∀ g ∈ n, g.2 ≠ e.2) := by
  simp only [List.mem_append, List.mem_filter, Bool.not_eq_true', List.any_eq_false, beq_iff_eq]

theorem nodup_union_by_oid {n s : FIdx} (h1 : (n.map (·.2)).Nodup) (h2 : (s.map (·.2)).Nodup) :
    ((n ++ s.filter (fun f => !(n.any (fun g => g.2 == f.2)))).map (·.2)).Nodup := by
  rw [List.map_append, List.nodup_append]
  refine ⟨h1, h2.sublist (List.filter_sublist.map _), ?_⟩
  intro a ha b hb hab
  obtain ⟨g, hg, rfl⟩ := List.mem_map.mp ha
  obtain ⟨f, hf, rfl⟩ := List.mem_map.mp hb
  have := (List.mem_filter.mp hf).2
  simp only [Bool.not_eq_true', List.any_eq_false, beq_iff_eq] at this
  exact this g hg hab

theorem denotes_union_by_oid (l : Loaded) (n s : FIdx) (u : Nat) :
    Denotes l (n ++ s.filter (fun f => !(n.any (fun g => g.2 == f.2)))) u ↔ Denotes l n u ∨ Denotes l s u := by
  constructor
  · rintro ⟨e, he, hu⟩
    rcases (mem_union_by_oid n s e).mp he with he | ⟨he, _⟩
    · exact Or.inl ⟨e, he, hu⟩
    · exact Or.inr ⟨e, he, hu⟩
  · rintro (⟨e, he, hu⟩ | ⟨f, hf, hu⟩)
    · exact ⟨e, List.mem_append_left _ he, hu⟩
    -- an old entry is kept, or a new one has its oid and designates the same object
    · by_cases hex : ∃ g ∈ n, g.2 = f.2
      · obtain ⟨g, hg, hgf⟩ := hex
        exact ⟨g, List.mem_append_left _ hg, hgf ▸ hu⟩
      · exact ⟨f, (mem_union_by_oid n s f).mpr (Or.inr ⟨hf, fun g hg hgf => hex ⟨g, hg, hgf⟩⟩), hu⟩

/-! ### the indexed path, `And` and `Or`

  `hm` names the matcher as the scan does (`scanMatcher`: the compiled pattern for `re`, a dummy
  otherwise) although this path runs `probeMatcher` (which compiles every string probe): only `re`
  looks at the matcher (`searchOp_eval`), and so both paths are stated for the same `m` and can be
  compared (`index_independent`). -/

section Indexed
variable {E : Env} {c : Coll} {l : Loaded} {field : String} {fi : FieldIdx} {op : Op} {probe : Leaf} {pv : Val}
  {m : Matcher} (h : Inv' c l) (hfi : l.index.field? field = some fi) (hres : pathResolvable c.live field = true)
  (hprep : E.prepare l.descs field probe = .v pv) (htag : pv.tag = fi.cast) (hm : E.scanMatcher op pv = some m)
include h hfi hres hprep htag hm

theorem search_indexed_eq (k : Option FIdx) :
    Coll.search E c field (some op) probe k =
      (c, { fields := (fi.constrained k).filter (fun e => Val.eval m op e.1 pv), orderPos := some fi.pos }) := by
  have hw := h.wf.fields fi (field?_mem hfi)
  have hk : Desc (fi.constrained k) ∧ ∀ e : Entry, e ∈ fi.constrained k → e.1.tag = pv.tag := by
    cases k with
    | none => exact ⟨hw.desc, fun e he => (hw.homog e he).trans htag.symm⟩
    | some cs => exact ⟨constrain_desc fi.idx cs, fun e he => (hw.homog e (constrain_subset he)).trans htag.symm⟩
  have hp : ∀ s, op = .re → pv = .str s → E.probeMatcher pv = some m := by
    rintro s rfl rfl
    exact hm
  rw [search_indexed_path (schema_of_inv h.toInv) hres hprep hfi, if_pos htag]
  simp only [Env.viaIndex, searchOp_eval hk.1 (fun _ => hk.2) hp]

/-- C02 / C13 on an indexed field: the collection is unchanged; the result designates exactly the
    matching objects, each once, in non-increasing order of the field -/
theorem search_indexed_exact :
    ∃ s, Coll.search E c field (some op) probe none = (c, s) ∧ s.err = none ∧ s.orderPos = some fi.pos ∧
      Desc s.fields ∧ Exact l s.fields (Matches c m op fi.pos pv) :=
  have hmem := field?_mem hfi
  ⟨_, search_indexed_eq h hfi hres hprep htag hm none, rfl, rfl, (h.wf.fields fi hmem).desc.filter _,
    (column_of_index h.toInv hmem).exact h.toInv m op pv⟩

/-- C02 / C13 for `And` on an indexed field: the result holds exactly the entries of the field index
    whose oid occurs in the previous result and whose value satisfies the operator, each once, in
    non-increasing order of the NEW field -/
theorem and_indexed_exact (s0 : Search) (hs0 : s0.err = none) (hn0 : (s0.fields.map (·.2)).Nodup) :
    ∃ s, Coll.searchAnd E c s0 field (some op) probe = (c, s) ∧ s.err = none ∧ s.orderPos = some fi.pos ∧
      (∀ e, e ∈ s.fields ↔ e ∈ fi.idx ∧ (∃ f ∈ s0.fields, f.2 = e.2) ∧ Val.eval m op e.1 pv = true) ∧
      Desc s.fields ∧ (s.fields.map (·.2)).Nodup := by
  have hnd := (h.wf.fields fi (field?_mem hfi)).nodup h.wf.oidNodup
  have hp := constrain_perm fi.idx s0.fields hnd hn0
  refine ⟨{ fields := (fi.idx.constrain s0.fields).filter (fun e => Val.eval m op e.1 pv), orderPos := some fi.pos },
    ?_, rfl, rfl, fun e => ?_, (constrain_desc fi.idx s0.fields).filter _, ?_⟩
  · unfold Coll.searchAnd
    rw [hs0]
    exact search_indexed_eq h hfi hres hprep htag hm (some s0.fields)
  · simp only [List.mem_filter, hp.mem_iff, List.any_eq_true, beq_iff_eq, and_assoc]
  · exact ((hp.map (·.2)).nodup_iff.mpr (hnd.sublist (List.filter_sublist.map _))).sublist
      (List.filter_sublist.map _)

theorem and_indexed_matches (s0 : Search) (hs0 : s0.err = none) (hn0 : (s0.fields.map (·.2)).Nodup) (u : Nat) :
    Denotes l (Coll.searchAnd E c s0 field (some op) probe).2.fields u ↔
      Denotes l s0.fields u ∧ Matches c m op fi.pos pv u := by
  have hmem := field?_mem hfi
  obtain ⟨s, e1, _, _, hs, _⟩ := and_indexed_exact h hfi hres hprep htag hm s0 hs0 hn0
  rw [e1]
  constructor
  · rintro ⟨e, he, hu⟩
    obtain ⟨h1, ⟨f, hf, hfe⟩, h3⟩ := (hs e).mp he
    obtain ⟨u', o, a1, a2, a3⟩ := (h.refl.mem_idx fi hmem e).mp h1
    cases ids_uuid_eq h.wf a1 (uuidOf_mem hu)
    exact ⟨⟨f, hf, hfe ▸ hu⟩, o, e.1, a2, a3, h3⟩
  · rintro ⟨⟨f, hf, hu⟩, o, x, b1, b2, b3⟩
    refine ⟨(x, f.2), (hs (x, f.2)).mpr ⟨?_, ⟨f, hf, rfl⟩, b3⟩, hu⟩
    exact (h.refl.mem_idx fi hmem (x, f.2)).mpr ⟨u, o, uuidOf_mem hu, b1, b2⟩

theorem or_indexed_matches (s0 : Search) (hs0 : s0.err = none) :
    (Coll.searchOr E c s0 field (some op) probe).1 = c ∧
    (Coll.searchOr E c s0 field (some op) probe).2.err = none ∧
    ((s0.fields.map (·.2)).Nodup → ((Coll.searchOr E c s0 field (some op) probe).2.fields.map (·.2)).Nodup) ∧
    ∀ u, Denotes l (Coll.searchOr E c s0 field (some op) probe).2.fields u ↔
      Matches c m op fi.pos pv u ∨ Denotes l s0.fields u := by
  obtain ⟨o1, o2, hf⟩ := searchOr_eq E c s0 field (some op) probe hs0
  obtain ⟨n, e1, herr, _, _, hx⟩ := search_indexed_exact h hfi hres hprep htag hm
  rw [e1] at o1 o2 hf
  rw [hf]
  exact ⟨o1, o2.trans herr, nodup_union_by_oid hx.nodup, fun u =>
    (denotes_union_by_oid l n.fields s0.fields u).trans (or_congr_left (hx.denotes u))⟩

end Indexed

theorem search_indexed_re_exact {E : Env} {c : Coll} {l : Loaded} {field : String} {fi : FieldIdx}
    {probe : Leaf} {ps : Bytes} {f : Matcher} (h : Inv' c l) (hfi : l.index.field? field = some fi)
    (hres : pathResolvable c.live field = true) (hprep : E.prepare l.descs field probe = .v (.str ps))
    (htag : fi.cast = Tag.str) (hcomp : E.compile ps = some f) :
    ∃ s, Coll.search E c field (some .re) probe none = (c, s) ∧ s.err = none ∧ s.orderPos = some fi.pos ∧
      (∀ e ∈ s.fields, ∃ u, l.index.uuidOf e.2 = some u ∧ Matches c f .re fi.pos (.str ps) u) ∧
      (∀ u, Matches c f .re fi.pos (.str ps) u → ∃ e ∈ s.fields, l.index.uuidOf e.2 = some u) ∧
      Desc s.fields ∧ (s.fields.map (·.2)).Nodup :=
  let ⟨s, e, herr, hord, hd, hx⟩ :=
    search_indexed_exact h hfi hres hprep htag.symm ((scanMatcher_re_str E ps).trans hcomp)
  ⟨s, e, herr, hord, hx.sound, hx.complete, hd, hx.nodup⟩

/-! ### the unindexed path -/

/-- the row the scan of `searchAll` reads for the object stored under `u` -/
def scanEntry (c : Coll) (l : Loaded) (pos : Nat) (u : Nat) : Option Entry :=
  match c.view u with
  | some o =>
    match o.field pos, l.index.oidOf u with
    | .v x, some oid => some (x, oid)
    | _, _ => none
  | none => none

theorem scanEntry_congr {c c' : Coll} (hv : c'.view = c.view) (l : Loaded) (pos : Nat) :
    scanEntry c' l pos = scanEntry c l pos := by
  funext u
  unfold scanEntry
  rw [hv]

theorem scanEntry_of_view {c : Coll} {l : Loaded} {pos u oid : Nat} {o : Obj} {x : Val} (hv : c.view u = some o)
    (hx : o.field pos = .v x) (ho : l.index.oidOf u = some oid) : scanEntry c l pos u = some (x, oid) := by
  unfold scanEntry
  rw [hv]
  simp only [hx, ho]

theorem scanEntry_eq_some_iff {c : Coll} {l : Loaded} (h : Inv c l) {pos u : Nat} {e : Entry} :
    scanEntry c l pos u = some e ↔ ∃ o, (e.2, u) ∈ l.index.ids ∧ c.view u = some o ∧ o.field pos = .v e.1 := by
  constructor
  · intro he
    unfold scanEntry at he
    split at he
    · next o hv =>
      split at he
      · next x oid hx ho =>
        cases he
        exact ⟨o, oidOf_mem ho, hv, hx⟩
      · cases he
    · cases he
  · rintro ⟨o, h1, h2, h3⟩
    exact scanEntry_of_view h2 h3 (oidOf_of_mem h.wf.uuidNodup h1)

theorem scan_next {c c' : Coll} {l : Loaded} {m : Matcher} {op : Op} {pos u oid : Nat} {pv x : Val} {o : Obj}
    (us : List Nat) (acc : FIdx) (hg : c.get u = (c', .ok o)) (ho : l.index.oidOf o.uuid = some oid)
    (hx : o.field pos = .v x) :
    Coll.scan c l m op pos pv (u :: us) acc =
      Coll.scan c' l m op pos pv us (if Val.eval m op x pv then acc ++ [(x, oid)] else acc) := by
  rw [Coll.scan, hg]
  simp only [ho, hx]

theorem scan_spec {l : Loaded} (m : Matcher) (op : Op) (pos : Nat) (pv : Val) :
    ∀ (us : List Nat) {c : Coll} (acc : FIdx), Inv' c l →
      (∀ u o, c.view u = some o → ∃ x, o.field pos = .v x) → (∀ u ∈ us, (c.view u).isSome) →
      ∃ c', Coll.scan c l m op pos pv us acc =
          (c', acc ++ (us.filterMap (scanEntry c l pos)).filter (fun e => Val.eval m op e.1 pv), none) ∧
        Inv' c' l ∧ c'.view = c.view ∧ c'.disk = c.disk := by
  intro us
  induction us with
  | nil =>
    intro c acc h _ _
    exact ⟨c, by rw [Coll.scan, List.filterMap_nil, List.filter_nil, List.append_nil], h, rfl, rfl⟩
  | cons u us ih =>
    intro c acc h htyp hus
    obtain ⟨o, hv⟩ := Option.isSome_iff_exists.mp (hus u List.mem_cons_self)
    obtain ⟨c1, hg, h2, h3, h4⟩ := get_stored h hv
    obtain ⟨x, hx⟩ := htyp u o hv
    obtain ⟨oid, ho, _⟩ := view_oid h.toInv hv
    obtain ⟨c', i1, i2, i3, i4⟩ := ih (c := c1)
      (if Val.eval m op x pv then acc ++ [(x, oid)] else acc) h2 (by rw [h3]; exact htyp)
      (fun w hw => by rw [h3]; exact hus w (List.mem_cons_of_mem _ hw))
    refine ⟨c', ?_, i2, i3.trans h3, i4.trans h4⟩
    rw [scan_next us acc hg ((h.typed u o hv).2.symm ▸ ho) hx, i1, scanEntry_congr h3, List.filterMap_cons,
      scanEntry_of_view hv hx ho, List.filter_cons]
    cases Val.eval m op x pv
    · rfl
    · rw [if_pos rfl, if_pos rfl, List.append_assoc, List.singleton_append]

theorem column_of_scan {c : Coll} {l : Loaded} (h : Inv c l) (pos : Nat) :
    Column c l pos (l.index.uuids.filterMap (scanEntry c l pos)) := by
  constructor
  · intro e
    rw [List.mem_filterMap]
    constructor
    · rintro ⟨u, _, hu⟩
      exact ⟨u, (scanEntry_eq_some_iff h).mp hu⟩
    · rintro ⟨u, o, ho⟩
      exact ⟨u, List.mem_map.mpr ⟨_, ho.1, rfl⟩, (scanEntry_eq_some_iff h).mpr ⟨o, ho⟩⟩
  · rw [List.map_filterMap]
    apply nodup_filterMap_of_inj _ _ _ h.wf.uuidNodup
    intro a b oid ha hb
    obtain ⟨ea, ha1, rfl⟩ := Option.map_eq_some_iff.mp ha
    obtain ⟨eb, hb1, hb2⟩ := Option.map_eq_some_iff.mp hb
    obtain ⟨_, h1, _⟩ := (scanEntry_eq_some_iff h).mp ha1
    obtain ⟨_, h2, _⟩ := (scanEntry_eq_some_iff h).mp hb1
    exact ids_uuid_eq h.wf h1 (hb2 ▸ h2)

/-- C02 on an unindexed field, for the matcher `m` the scan evaluates -/
theorem search_scan_exact {E : Env} {c : Coll} {l : Loaded} {field : String} {op : Op} {probe : Leaf}
    {pv : Val} {pos : Nat} {d : FieldDesc} {m : Matcher} (h : Inv' c l) (hnone : l.index.field? field = none)
    (hres : pathResolvable c.live field = true) (hprep : E.prepare l.descs field probe = .v pv)
    (hdp : descPos? l.descs field = some (pos, d)) (hcast : d.cast = some pv.tag)
    (hm : E.scanMatcher op pv = some m) (htyp : ∀ u o, c.view u = some o → ∃ x, o.field pos = .v x) :
    ∃ c' s, Coll.search E c field (some op) probe none = (c', s) ∧ s.err = none ∧ s.orderPos = none ∧
      Inv' c' l ∧ c'.view = c.view ∧ c'.disk = c.disk ∧ Exact l s.fields (Matches c m op pos pv) := by
  obtain ⟨c', h1, h2, h3, h4⟩ := scan_spec (l := l) m op pos pv l.index.uuids [] h htyp
    (fun u hu => (h.dom u).mp hu)
  refine ⟨c', { fields := _, orderPos := none }, ?_, rfl, rfl, h2, h3, h4,
    (column_of_scan h.toInv pos).exact h.toInv m op pv⟩
  rw [search_scan_path (schema_of_inv h.toInv) hres hprep hnone hdp hcast, if_pos rfl]
  simp only [Env.viaScan, hm, h1, List.nil_append]

theorem search_unindexed_re_exact {E : Env} {c : Coll} {l : Loaded} {field : String} {probe : Leaf}
    {ps : Bytes} {f : Matcher} {pos : Nat} {d : FieldDesc} (h : Inv' c l) (hnone : l.index.field? field = none)
    (hres : pathResolvable c.live field = true) (hprep : E.prepare l.descs field probe = .v (.str ps))
    (hdp : descPos? l.descs field = some (pos, d)) (hcast : d.cast = some Tag.str)
    (hcomp : E.compile ps = some f) (htyp : ∀ u o, c.view u = some o → ∃ x, o.field pos = .v x) :
    ∃ c' s, Coll.search E c field (some .re) probe none = (c', s) ∧ s.err = none ∧ Inv' c' l ∧
      c'.view = c.view ∧ c'.disk = c.disk ∧
      (∀ e ∈ s.fields, ∃ u, l.index.uuidOf e.2 = some u ∧ Matches c f .re pos (.str ps) u) ∧
      (∀ u, Matches c f .re pos (.str ps) u → ∃ e ∈ s.fields, l.index.uuidOf e.2 = some u) ∧
      (s.fields.map (·.2)).Nodup ∧ s.orderPos = none :=
  let ⟨c', s, e, herr, hord, hi, hv, hd, hx⟩ :=
    search_scan_exact h hnone hres hprep hdp hcast ((scanMatcher_re_str E ps).trans hcomp) htyp
  ⟨c', s, e, herr, hi, hv, hd, hx.sound, hx.complete, hx.nodup, hord⟩

/-- C12: an index changes speed and order only.  Two handles holding the same objects, the field
    indexed in one and not in the other (`hpos`: both schemas place the field at the same leaf):
    both searches succeed and designate the same set of objects, namely the matching ones -/
theorem index_independent {E : Env} {c₁ c₂ : Coll} {l₁ l₂ : Loaded} {field : String} {fi : FieldIdx} {op : Op}
    {probe : Leaf} {pv : Val} {pos : Nat} {d : FieldDesc} {m : Matcher} (h₁ : Inv' c₁ l₁) (h₂ : Inv' c₂ l₂)
    (hview : c₁.view = c₂.view)
    (hfi : l₁.index.field? field = some fi) (hnone : l₂.index.field? field = none)
    (hres₁ : pathResolvable c₁.live field = true) (hres₂ : pathResolvable c₂.live field = true)
    (hprep₁ : E.prepare l₁.descs field probe = .v pv) (hprep₂ : E.prepare l₂.descs field probe = .v pv)
    (htag : pv.tag = fi.cast) (hdp : descPos? l₂.descs field = some (pos, d)) (hcast : d.cast = some pv.tag)
    (hpos : fi.pos = pos) (hm : E.scanMatcher op pv = some m) :
    (Coll.search E c₁ field (some op) probe none).2.err = none ∧
    (Coll.search E c₂ field (some op) probe none).2.err = none ∧
    ∀ u, (Denotes l₁ (Coll.search E c₁ field (some op) probe none).2.fields u ↔ Matches c₁ m op pos pv u) ∧
         (Denotes l₂ (Coll.search E c₂ field (some op) probe none).2.fields u ↔ Matches c₁ m op pos pv u) := by
  subst hpos
  have htyp : ∀ u o, c₂.view u = some o → ∃ x, o.field fi.pos = .v x := by
    intro u o hv
    rw [← hview] at hv
    obtain ⟨x, hx, _⟩ := (h₁.typed u o hv).1 fi (field?_mem hfi)
    exact ⟨x, hx⟩
  obtain ⟨s₁, e1, herr₁, _, _, hx₁⟩ := search_indexed_exact h₁ hfi hres₁ hprep₁ htag hm
  obtain ⟨c₂', s₂, e2, herr₂, _, _, _, _, hx₂⟩ := search_scan_exact h₂ hnone hres₂ hprep₂ hdp hcast hm htyp
  rw [e1, e2]
  refine ⟨herr₁, herr₂, fun u => ⟨hx₁.denotes u, (hx₂.denotes u).trans ?_⟩⟩
  unfold Matches
  rw [hview]

/-! ### `AssignIndex` (C13) -/

theorem assignIndex_spec {c : Coll} {l : Loaded} {field : String} {fi : FieldIdx} (h : Inv' c l)
    (hfi : l.index.field? field = some fi) :
    Coll.assignIndex c field = (c, .ok (fi.idx.map (·.1))) ∧ Desc fi.idx ∧
    (fi.idx.map (·.1)).Pairwise (fun a b => Val.lt a b = false) ∧
    (fi.idx.map (·.1)).length = l.index.uuids.length ∧
    (∀ x ∈ fi.idx.map (·.1), ∃ u o, c.view u = some o ∧ o.field fi.pos = .v x) ∧
    (∀ u o, c.view u = some o → ∃ x ∈ fi.idx.map (·.1), o.field fi.pos = .v x) := by
  have hmem := field?_mem hfi
  have hw := h.wf.fields fi hmem
  refine ⟨?_, hw.desc, ?_, ?_, ?_, ?_⟩
  · unfold Coll.assignIndex
    rw [schema_of_inv h.toInv]
    simp only [hfi]
  · rw [List.pairwise_map]
    exact hw.desc
  · rw [List.length_map, ← List.length_map (·.2), hw.oids.length_eq, List.length_map, ObjIndex.uuids, List.length_map]
  · intro x hx
    obtain ⟨e, he, rfl⟩ := List.mem_map.mp hx
    obtain ⟨u, o, _, a2, a3⟩ := (h.refl.mem_idx fi hmem e).mp he
    exact ⟨u, o, a2, a3⟩
  · intro u o hv
    obtain ⟨x, hx, _⟩ := (h.typed u o hv).1 fi hmem
    obtain ⟨oid, ho, _⟩ := view_oid h.toInv hv
    have he : (x, oid) ∈ fi.idx := (h.refl.mem_idx fi hmem (x, oid)).mpr ⟨u, o, oidOf_mem ho, hv, hx⟩
    exact ⟨x, List.mem_map.mpr ⟨(x, oid), he, rfl⟩, hx⟩

/-! ### collecting (C13, C20) -/

def readablePrefix (c : Coll) (us : List Nat) : Nat := (us.takeWhile (fun u => (c.view u).isSome)).length

theorem readablePrefix_congr {c c' : Coll} (hv : c'.view = c.view) (us : List Nat) :
    readablePrefix c' us = readablePrefix c us := by
  unfold readablePrefix
  rw [hv]

theorem readablePrefix_nil (c : Coll) : readablePrefix c [] = 0 := rfl

theorem readablePrefix_cons_none {c : Coll} {u : Nat} (us : List Nat) (hv : c.view u = none) :
    readablePrefix c (u :: us) = 0 := by
  unfold readablePrefix
  rw [List.takeWhile_cons, hv]
  rfl

theorem readablePrefix_cons_some {c : Coll} {u : Nat} {o : Obj} (us : List Nat) (hv : c.view u = some o) :
    readablePrefix c (u :: us) = readablePrefix c us + 1 := by
  unfold readablePrefix
  rw [List.takeWhile_cons, hv]
  rfl

theorem readablePrefix_le (c : Coll) (us : List Nat) : readablePrefix c us ≤ us.length := by
  unfold readablePrefix
  exact (List.takeWhile_sublist _).length_le

theorem readablePrefix_eq_length_iff {c : Coll} {us : List Nat} :
    readablePrefix c us = us.length ↔ ∀ u ∈ us, (c.view u).isSome := by
  induction us with
  | nil => exact ⟨fun _ _ hu => (nomatch hu), fun _ => rfl⟩
  | cons u us ih =>
    cases hv : c.view u with
    | none =>
      rw [readablePrefix_cons_none us hv]
      refine ⟨fun h => (nomatch h), fun h => ?_⟩
      have := h u List.mem_cons_self
      rw [hv] at this
      cases this
    | some o =>
      rw [readablePrefix_cons_some us hv, List.length_cons, Nat.add_right_cancel_iff, ih, List.forall_mem_cons, hv]
      exact ⟨fun h => ⟨rfl, h⟩, fun h => h.2⟩

theorem collectLoop_err {c c' : Coll} {u : Nat} {e : Err} (us : List Nat) (lim : Nat) (out : List Obj)
    (hg : c.get u = (c', .err e)) : Coll.collectLoop c (u :: us) lim out = (c', lim, out, some e) := by
  rw [Coll.collectLoop, hg]

theorem collectLoop_stop {c c' : Coll} {u : Nat} {o : Obj} (us : List Nat) (out : List Obj)
    (hg : c.get u = (c', .ok o)) : Coll.collectLoop c (u :: us) 0 out = (c', 0, out, none) := by
  rw [Coll.collectLoop, hg]
  rfl

theorem collectLoop_next {c c' : Coll} {u : Nat} {o : Obj} (us : List Nat) (lim : Nat) (out : List Obj)
    (hg : c.get u = (c', .ok o)) :
    Coll.collectLoop c (u :: us) (lim + 1) out = Coll.collectLoop c' us lim (out ++ [o]) := by
  rw [Coll.collectLoop, hg]
  rfl

/-- the loop fails with `notFound` iff it runs into an identifier that is not stored before having
    read one object beyond the limit: hence `lim < readablePrefix c us`, not `≤` -/
theorem collectLoop_spec {l : Loaded} : ∀ (us : List Nat) {c : Coll} (lim : Nat) (out : List Obj), Inv' c l →
    ∃ c', Coll.collectLoop c us lim out =
        (c', lim - readablePrefix c us, out ++ (us.take (min lim (readablePrefix c us))).filterMap c.view,
          if readablePrefix c us = us.length ∨ lim < readablePrefix c us then none else some Err.notFound) ∧
      Inv' c' l ∧ c'.view = c.view ∧ c'.disk = c.disk := by
  intro us
  induction us with
  | nil =>
    intro c lim out h
    refine ⟨c, ?_, h, rfl, rfl⟩
    rw [Coll.collectLoop, readablePrefix_nil, List.length_nil, if_pos (Or.inl rfl), Nat.sub_zero, List.take_nil,
      List.filterMap_nil, List.append_nil]
  | cons u us ih =>
    intro c lim out h
    cases hv : c.view u with
    | none =>
      obtain ⟨c1, hg, h2⟩ := get_gone h hv
      refine ⟨c1, ?_, h2⟩
      rw [collectLoop_err us lim out hg, readablePrefix_cons_none us hv]
      -- prefix 0 of a list that is not empty: neither disjunct holds
      rw [if_neg (not_or.mpr ⟨nofun, Nat.not_lt_zero _⟩), Nat.sub_zero, Nat.min_zero, List.take_zero,
        List.filterMap_nil, List.append_nil]
    | some o =>
      obtain ⟨c1, hg, h2, h3, h4⟩ := get_stored h hv
      have hk := readablePrefix_cons_some us hv
      cases lim with
      | zero =>
        refine ⟨c1, ?_, h2, h3, h4⟩
        rw [collectLoop_stop us out hg, hk]
        -- limit 0, prefix `k + 1`: the object read beyond the limit is there, the right disjunct
        rw [if_pos (Or.inr (Nat.succ_pos _)), Nat.zero_sub, Nat.zero_min, List.take_zero, List.filterMap_nil,
          List.append_nil]
      | succ lim =>
        obtain ⟨c', i1, i2, i3, i4⟩ := ih (c := c1) lim (out ++ [o]) h2
        refine ⟨c', ?_, i2, i3.trans h3, i4.trans h4⟩
        rw [collectLoop_next us lim out hg, i1, readablePrefix_congr h3, h3, hk]
        -- with `k` the prefix of `us`: `lim + 1 - (k + 1) = lim - k`, `min (lim + 1) (k + 1) = min lim k + 1`,
        -- and `u`, which is stored, heads the `take`
        simp only [Nat.add_sub_add_right, Nat.add_min_add_right, List.take_succ_cons, List.filterMap_cons, hv,
          List.append_assoc, List.singleton_append, List.length_cons, Nat.add_right_cancel_iff,
          Nat.add_lt_add_iff_right]

theorem collectLoop_all {c : Coll} {l : Loaded} (h : Inv' c l) (us : List Nat) (lim : Nat) (out : List Obj)
    (hall : ∀ u ∈ us, (c.view u).isSome) :
    ∃ c', Coll.collectLoop c us lim out = (c', lim - us.length, out ++ (us.take lim).filterMap c.view, none) ∧
      Inv' c' l ∧ c'.view = c.view ∧ c'.disk = c.disk := by
  obtain ⟨c', h1, h2⟩ := collectLoop_spec us lim out h
  rw [readablePrefix_eq_length_iff.mpr hall, ← List.take_eq_take_min, if_pos (Or.inl rfl)] at h1
  exact ⟨c', h1, h2⟩

/-- the identifiers `Search.collect` iterates over, in iteration order -/
def Search.order (s : Search) (l : Loaded) : List Nat := if s.reverse then (s.uuids l).reverse else s.uuids l

theorem Search.order_perm (s : Search) (l : Loaded) : (s.order l).Perm (s.uuids l) := by
  unfold Search.order
  split
  · exact List.reverse_perm _
  · exact .refl _

theorem Search.mem_order {s : Search} {l : Loaded} {u : Nat} : u ∈ s.order l ↔ u ∈ s.uuids l :=
  (s.order_perm l).mem_iff

theorem Search.order_length (s : Search) (l : Loaded) : (s.order l).length = s.fields.length :=
  (s.order_perm l).length_eq.trans (List.length_map _)

theorem collect_of_loop {c c' : Coll} {l : Loaded} (h : Inv c l) (s : Search) (hs : s.err = none) {lim : Nat}
    {out : List Obj} {e : Option Err} (hl : Coll.collectLoop c (s.order l) s.limit [] = (c', lim, out, e)) :
    Coll.collect c s = (c', { s with limit := lim }, out, e) := by
  unfold Coll.collect
  rw [hs, schema_of_inv h]
  unfold Search.order at hl
  simp only [hl]

theorem collect_eq {c : Coll} {l : Loaded} (h : Inv' c l) (s : Search) (hs : s.err = none) :
    ∃ c', Coll.collect c s =
        (c', { s with limit := s.limit - readablePrefix c (s.order l) },
          ((s.order l).take (min s.limit (readablePrefix c (s.order l)))).filterMap c.view,
          if readablePrefix c (s.order l) = (s.order l).length ∨ s.limit < readablePrefix c (s.order l) then none
          else some Err.notFound) ∧
      Inv' c' l ∧ c'.view = c.view ∧ c'.disk = c.disk := by
  obtain ⟨c', h1, h2⟩ := collectLoop_spec (l := l) (s.order l) s.limit [] h
  rw [List.nil_append] at h1
  exact ⟨c', collect_of_loop h.toInv s hs h1, h2⟩

theorem resolvable_readable {c : Coll} {l : Loaded} (h : Inv c l) {s : Search}
    (hall : ∀ e ∈ s.fields, ∃ u, l.index.uuidOf e.2 = some u) : ∀ u ∈ s.order l, (c.view u).isSome := by
  intro u hu
  rw [Search.mem_order] at hu
  obtain ⟨e, he, rfl⟩ := List.mem_map.mp hu
  obtain ⟨w, hw⟩ := hall e he
  obtain ⟨o, ho, _⟩ := uuidOf_view h hw
  rw [hw, Option.getD_some, ho]
  rfl

/-- C13 / C20: with every entry still designating an object, `Collect` returns no error, the CURRENT
    content of the designated objects in the order of the entries (reversed on demand), at most
    `limit` of them, and the limit that remains -/
theorem collect_spec {c : Coll} {l : Loaded} (h : Inv' c l) (s : Search) (hs : s.err = none)
    (hall : ∀ e ∈ s.fields, ∃ u, l.index.uuidOf e.2 = some u) :
    ∃ c', Coll.collect c s =
        (c', { s with limit := s.limit - s.fields.length }, ((s.order l).take s.limit).filterMap c.view, none) ∧
      Inv' c' l ∧ c'.view = c.view ∧ c'.disk = c.disk := by
  obtain ⟨c', h1, h2⟩ := collectLoop_all h (s.order l) s.limit [] (resolvable_readable h.toInv hall)
  rw [List.nil_append, Search.order_length] at h1
  exact ⟨c', collect_of_loop h.toInv s hs h1, h2⟩

theorem collect_length {c : Coll} {l : Loaded} (h : Inv' c l) (s : Search) (hs : s.err = none)
    (hall : ∀ e ∈ s.fields, ∃ u, l.index.uuidOf e.2 = some u) :
    (Coll.collect c s).2.2.1.length = min s.limit s.fields.length := by
  obtain ⟨c', h1, _⟩ := collect_spec h s hs hall
  rw [h1]
  show (List.filterMap c.view _).length = _
  rw [List.filterMap_length_eq_length.mpr fun u hu => resolvable_readable h.toInv hall u (List.mem_of_mem_take hu),
    List.length_take, Search.order_length]

/-! #### C20: whatever happened since the search was evaluated -/

/-- `h0`: the resolution of a vanished oid, uuid 0, is never stored: the uuid generator never draws 0,
    which `assignNew` treats as "no identifier" -/
theorem getD_readable {c : Coll} {l : Loaded} (h0 : c.view 0 = none) {oid : Nat}
    (hr : (c.view ((l.index.uuidOf oid).getD 0)).isSome) :
    l.index.uuidOf oid = some ((l.index.uuidOf oid).getD 0) := by
  cases hu : l.index.uuidOf oid with
  | none =>
    rw [hu, Option.getD_none, h0] at hr
    cases hr
  | some u => rfl

theorem filterMap_view_uuid {c : Coll} {l : Loaded} (h : Inv c l) (us : List Nat) :
    (us.filterMap c.view).map (·.uuid) = us.filter (fun u => (c.view u).isSome) := by
  induction us with
  | nil => rfl
  | cons u us ih =>
    rw [List.filterMap_cons, List.filter_cons]
    cases hv : c.view u with
    | none => exact ih
    | some o =>
      show o.uuid :: (us.filterMap c.view).map (·.uuid) = u :: us.filter _
      rw [ih, (h.typed u o hv).2]

theorem uuids_filter_nodup {c : Coll} {l : Loaded} (h : Inv c l) (h0 : c.view 0 = none) (fs : FIdx)
    (hn : (fs.map (·.2)).Nodup) :
    ((fs.map (fun e => (l.index.uuidOf e.2).getD 0)).filter (fun u => (c.view u).isSome)).Nodup := by
  rw [List.filter_map, List.Nodup, List.pairwise_map]
  refine ((List.pairwise_map.mp hn).filter _).imp_of_mem ?_
  intro a b ha hb hab heq
  have h1 := uuidOf_mem (getD_readable h0 (List.mem_filter.mp ha).2)
  have h2 := uuidOf_mem (getD_readable h0 (List.mem_filter.mp hb).2)
  rw [heq] at h1
  exact hab (ids_oid_eq h.wf h1 h2)

theorem order_filter_nodup {c : Coll} {l : Loaded} (h : Inv c l) (h0 : c.view 0 = none) (s : Search)
    (hn : (s.fields.map (·.2)).Nodup) : ((s.order l).filter (fun u => (c.view u).isSome)).Nodup :=
  ((s.order_perm l).filter _).nodup_iff.mpr (uuids_filter_nodup h h0 s.fields hn)

/-- C20: for ANY search value (evaluated earlier, whatever was written since), every object `Collect`
    returns is the current content of an object designated by an entry the search owns — an entry
    whose oid is gone resolves to identifier 0, which is not stored: never to another object — and no
    object is returned twice -/
theorem collect_only_members {c : Coll} {l : Loaded} (h : Inv' c l) (h0 : c.view 0 = none) (s : Search) :
    (∀ o ∈ (Coll.collect c s).2.2.1,
        ∃ e ∈ s.fields, ∃ u, l.index.uuidOf e.2 = some u ∧ c.view u = some o ∧ o.uuid = u) ∧
    ((s.fields.map (·.2)).Nodup → ((Coll.collect c s).2.2.1.map (·.uuid)).Nodup) := by
  cases hs : s.err with
  | some e =>
    rw [failed_collect c s e hs]
    exact ⟨fun o ho => absurd ho List.not_mem_nil, fun _ => List.nodup_nil⟩
  | none =>
    obtain ⟨c', h1, _⟩ := collect_eq h s hs
    rw [h1]
    constructor
    · intro o ho
      obtain ⟨u, hu, hv⟩ := List.mem_filterMap.mp ho
      obtain ⟨e, he, rfl⟩ := List.mem_map.mp (Search.mem_order.mp (List.mem_of_mem_take hu))
      exact ⟨e, he, _, getD_readable h0 (Option.isSome_of_eq_some hv), hv, (h.typed _ o hv).2⟩
    · intro hn
      show ((List.filterMap c.view _).map (·.uuid)).Nodup
      rw [filterMap_view_uuid h.toInv]
      exact (order_filter_nodup h.toInv h0 s hn).sublist ((List.take_sublist _ _).filter _)

theorem collect_gone_error {c : Coll} {l : Loaded} (h : Inv' c l) (h0 : c.view 0 = none) (s : Search)
    (hs : s.err = none) (hgone : ∃ e ∈ s.fields, l.index.uuidOf e.2 = none) (hlim : s.fields.length ≤ s.limit) :
    (Coll.collect c s).2.2.2 = some Err.notFound := by
  obtain ⟨c', h1, _⟩ := collect_eq h s hs
  obtain ⟨e, he, hu⟩ := hgone
  rw [h1]
  refine if_neg ?_
  rintro (hk | hk)
  · have := readablePrefix_eq_length_iff.mp hk 0 (Search.mem_order.mpr (List.mem_map.mpr ⟨e, he, by rw [hu]; rfl⟩))
    rw [h0] at this
    cases this
  · exact Nat.lt_irrefl _ (Nat.lt_of_lt_of_le hk (Nat.le_trans (readablePrefix_le c _) (Search.order_length s l ▸ hlim)))

/-! ### `One` (C13) -/

theorem one_empty (c : Coll) (s : Search) (hs : s.err = none) (he : s.fields = []) :
    Coll.one c s = (c, s, .err .noObject) := by
  unfold Coll.one
  rw [hs, he]
  rfl

theorem one_eq_collect (c : Coll) (s : Search) (hs : s.err = none) (hne : s.fields ≠ []) :
    Coll.one c s =
      match Coll.collect c { s with limit := 1 } with
      | (c, s, _, some e) => (c, s, .err e)
      | (c, s, o :: _, none) => (c, s, .ok o)
      | (c, s, [], none) => (c, s, .panic) := by
  unfold Coll.one
  rw [hs]
  cases hf : s.fields with
  | nil => exact absurd hf hne
  | cons _ _ => rfl

/-- C13 for `One`: `noObject` exactly on an empty result; otherwise (every entry still designating an
    object) the first element `Collect` would return with limit 1, i.e. the current content of the
    object designated by the first entry in iteration order.  (The loop of `Collect` reads one object
    beyond the limit: with an entry that no longer resolves behind the first, `One` may answer
    `notFound` although the first object is stored.) -/
theorem one_spec {c : Coll} {l : Loaded} (h : Inv' c l) (s : Search) (hs : s.err = none) :
    ((Coll.one c s).2.2 = .err .noObject ↔ s.fields = []) ∧
    (s.fields ≠ [] → (∀ e ∈ s.fields, ∃ u, l.index.uuidOf e.2 = some u) →
      ∃ c' u o, (s.order l).head? = some u ∧ c.view u = some o ∧
        Coll.collect c { s with limit := 1 } = (c', { s with limit := 0 }, [o], none) ∧
        Coll.one c s = (c', { s with limit := 0 }, .ok o) ∧
        Inv' c' l ∧ c'.view = c.view ∧ c'.disk = c.disk) := by
  constructor
  · refine ⟨fun hr => Classical.byContradiction fun hne => ?_, fun he => by rw [one_empty c s hs he]⟩
    have he : (Coll.collect c { s with limit := 1 }).2.2.2 ≠ some .noObject := by
      obtain ⟨c', h1, _⟩ := collect_eq h { s with limit := 1 } hs
      rw [h1]
      dsimp only
      split <;> nofun
    rw [one_eq_collect c s hs hne] at hr
    generalize Coll.collect c { s with limit := 1 } = x at hr he
    obtain ⟨c1, s1, out, e⟩ := x
    cases e with
    | some e =>
      cases hr
      exact he rfl
    | none => cases out <;> cases hr
  · intro hne hall
    obtain ⟨c', h1, h2⟩ := collect_spec h { s with limit := 1 } hs hall
    have hl := Search.order_length s l
    obtain ⟨u, rest, hord⟩ := List.exists_cons_of_ne_nil (l := s.order l) fun h0 =>
      hne (List.eq_nil_of_length_eq_zero (by rw [← hl, h0]; rfl))
    obtain ⟨o, hv⟩ := Option.isSome_iff_exists.mp (resolvable_readable h.toInv hall u (hord ▸ List.mem_cons_self))
    have hc : Coll.collect c { s with limit := 1 } = (c', { s with limit := 0 }, [o], none) := by
      rw [hord, List.length_cons] at hl
      rw [h1, show Search.order { s with limit := 1 } l = u :: rest from hord]
      simp only [← hl, Nat.sub_eq_zero_of_le (Nat.le_add_left 1 _), List.take_succ_cons, List.take_zero,
        List.filterMap_cons, List.filterMap_nil, hv]
    exact ⟨c', u, o, by rw [hord]; rfl, hv, hc, by rw [one_eq_collect c s hs hne, hc], h2⟩

/-! ### `Search.Delete` -/

theorem deleteList_go_spec : ∀ (us : List Nat) {c : Coll} {l : Loaded}, Inv' c l →
    ∃ c' l', Coll.deleteList.go c l us = (c', l', .ok ()) ∧ Inv' c' l' ∧
      c'.view = (fun w => if w ∈ us then none else c.view w) := by
  intro us
  induction us with
  | nil =>
    intro c l h
    exact ⟨c, l, rfl, h, funext fun w => (if_neg List.not_mem_nil).symm⟩
  | cons u us ih =>
    intro c l h
    obtain ⟨_, g2, g3, _⟩ := get_spec' h u
    obtain ⟨c2, d1, d2, d3⟩ := deleteCore_spec g2 u
    obtain ⟨c', l', i1, i2, i3⟩ := ih d2
    refine ⟨c', l', ?_, i2, ?_⟩
    · rw [Coll.deleteList.go]
      simp only [d1, i1]
    · rw [i3, d3, g3]
      funext w
      rw [updView_apply]
      by_cases hw : w = u
      · rw [hw, if_pos rfl, ite_self, if_pos List.mem_cons_self]
      · rw [if_neg hw]
        simp only [List.mem_cons, hw, false_or]

theorem deleteList_spec {c : Coll} {l : Loaded} (h : Inv' c l) (us : List Nat) :
    ∃ c' l', c.deleteList us = (c', .ok ()) ∧ Inv' c' l' ∧
      c'.view = (fun w => if w ∈ us then none else c.view w) := by
  obtain ⟨c', l', i1, i2, i3⟩ := deleteList_go_spec us h
  refine ⟨c'.commit l', l', ?_, ?_, ?_⟩
  · unfold Coll.deleteList
    rw [schema_of_inv h.toInv]
    simp only [i1]
  · exact (Inv'.commit_iff l').mpr i2
  · rw [← i3]
    exact view_commit c' l'

theorem searchDelete_spec {c : Coll} {l : Loaded} (h : Inv' c l) (s : Search) (hs : s.err = none) :
    ∃ c' l', Coll.searchDelete c s = (c', .ok ()) ∧ Inv' c' l' ∧
      c'.view = (fun w => if w ∈ s.uuids l then none else c.view w) := by
  unfold Coll.searchDelete
  rw [hs, schema_of_inv h.toInv]
  exact deleteList_spec h (s.uuids l)

/-- `h0`: an entry whose oid has vanished resolves to identifier 0, which is not stored -/
theorem searchDelete_view {c : Coll} {l : Loaded} (h : Inv' c l) (h0 : c.view 0 = none) (s : Search)
    (hs : s.err = none) (w : Nat) :
    (Denotes l s.fields w → (Coll.searchDelete c s).1.view w = none) ∧
    (¬ Denotes l s.fields w → (Coll.searchDelete c s).1.view w = c.view w) := by
  obtain ⟨c', l', i1, _, i3⟩ := searchDelete_spec h s hs
  rw [i1, i3]
  show (_ → (if w ∈ s.uuids l then none else c.view w) = none) ∧ (_ → (if w ∈ s.uuids l then none else c.view w) = _)
  constructor
  · rintro ⟨e, he, hu⟩
    exact if_pos (List.mem_map.mpr ⟨e, he, by rw [hu]; rfl⟩)
  · intro hd
    by_cases hm : w ∈ s.uuids l
    · obtain ⟨e, he, rfl⟩ := List.mem_map.mp hm
      rw [if_pos hm]
      cases hv : c.view ((l.index.uuidOf e.2).getD 0) with
      | none => rfl
      | some o => exact absurd ⟨e, he, getD_readable h0 (Option.isSome_of_eq_some hv)⟩ hd
    · exact if_neg hm

/-! ### why `collect_only_members` needs `c.view 0 = none`, and non-vacuity

  A consistent handle holding ONE object, stored under identifier 0 (oid 0), field `A` indexed and
  field `B` not.  A search value owning an entry whose oid (99) is not in the id table resolves it to
  identifier 0 and `Collect` returns the object stored there, which no entry of the search designates:
  without the hypothesis `c.view 0 = none` the statement of `collect_only_members` is false.  (The
  uuid generator never draws the empty uuid, so the hypothesis holds of every reachable state.) -/

namespace SearchCounter

def obj0 : Obj := { uuid := 0, shape := "", vals := [.v (.i64 7), .v (.str [1])] }
def fiA : FieldIdx := { name := "A", pos := 0, cast := .i64, cons := { index := true }, idx := [(.i64 7, 0)] }
def l1 : Loaded :=
  { descs := [{ path := "A", type := "int64", cast := some .i64, cons := { index := true } },
              { path := "B", type := "string", cast := some .str, cons := {} }],
    settings := {}, index := { next := 1, ids := [(0, 0)], fields := [fiA] } }
def c1 : Coll :=
  { live := [("A", "int64"), ("B", "string")], disk := { dir := true, files := [(0, obj0)] }, mem := some l1 }
def E1 : Env := { up := id, lo := id, transform := id, validate := fun _ => true, compile := fun _ => none,
                  serialisable := fun _ => true }
def staleSearch : Search := { fields := [(.i64 7, 99)] }

def lE : Loaded := { l1 with index := ObjIndex.new l1.descs }
/-- the empty collection from which one insert of `obj0` builds the content of `c1` (`Inv'` reads
    neither the committed schema nor the log, which `c1` leaves out) -/
def cE : Coll := { c1 with disk := { dir := true }, mem := some lE }

theorem inv1 : Inv' c1 l1 := by
  have ht : (storedObj E1 lE obj0 0).Typed lE.index := fun fi hfi => by
    cases List.mem_singleton.mp hfi
    exact ⟨.i64 7, rfl, rfl⟩
  obtain ⟨ix', e1, _, e2, _⟩ :=
    insert_accepted_eq (E := E1) (inv_empty (c := cE) rfl rfl rfl rfl rfl nofun) obj0 0 ht rfl
  cases (show Res.ok l1.index = Res.ok ix' from e1)
  exact e2.congr rfl rfl rfl rfl

theorem view1_some {u : Nat} {o : Obj} (hv : c1.view u = some o) : u = 0 ∧ o = obj0 := by
  cases List.mem_singleton.mp ((inv1.dom u).mpr (Option.isSome_of_eq_some hv))
  exact ⟨rfl, (Option.some.inj hv).symm⟩

end SearchCounter

open SearchCounter in
theorem collect_only_members_counterexample :
    ∃ (c : Coll) (l : Loaded) (s : Search), Inv' c l ∧ s.err = none ∧
      ¬ ∀ o ∈ (Coll.collect c s).2.2.1, ∃ e ∈ s.fields, ∃ u, l.index.uuidOf e.2 = some u ∧ c.view u = some o := by
  refine ⟨c1, l1, staleSearch, inv1, rfl, ?_⟩
  intro hall
  have hc : (Coll.collect c1 staleSearch).2.2.1 = [obj0] := by decide
  obtain ⟨e, he, u, hu, _⟩ := hall obj0 (by rw [hc]; exact List.mem_cons_self)
  cases List.mem_singleton.mp he
  cases hu

open SearchCounter in
/-- non-vacuity of the indexed path: the hypotheses of `search_indexed_eq` hold of a concrete handle -/
example : ∃ s, Coll.search E1 c1 "A" (some .ge) (.v (.i64 3)) none = (c1, s) ∧ s.fields = [(.i64 7, 0)] :=
  ⟨_, search_indexed_eq (E := E1) (fi := fiA) (pv := .i64 3) (m := fun _ => false) inv1 rfl (by decide) rfl rfl rfl none,
    by decide⟩

open SearchCounter in
/-- non-vacuity of the unindexed path: the hypotheses of `search_scan_exact` hold of a concrete handle -/
example : ∃ c' s, Coll.search E1 c1 "B" (some .eq) (.v (.str [1])) none = (c', s) ∧ s.err = none ∧
    ∀ u, Matches c1 (fun _ => false) .eq 1 (.str [1]) u → ∃ e ∈ s.fields, l1.index.uuidOf e.2 = some u := by
  obtain ⟨c', s, h1, h2, _, _, _, _, hx⟩ :=
    search_scan_exact (E := E1) (op := .eq) (probe := .v (.str [1])) (pv := .str [1]) (pos := 1)
      (d := { path := "B", type := "string", cast := some .str, cons := {} }) (field := "B")
      inv1 (by decide) (by decide) rfl rfl rfl rfl
      (fun u o hv => by obtain ⟨_, rfl⟩ := view1_some hv; exact ⟨.str [1], rfl⟩)
  exact ⟨c', s, h1, h2, hx.complete⟩

end Sod
