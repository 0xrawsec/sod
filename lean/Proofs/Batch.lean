/-
  `InsertOrUpdateMany` / `InsertOrUpdateBulk` (C07, with the batch parts of C06 and C15).

  A batch is all-or-nothing because every refusal comes before the insertion loop and touches nothing
  (`many_foreign_first`, `many_checked_err`), and after validation the insertion loop cannot be refused
  (`manyInsert_all_ok`).
  `InsertOrUpdateBulk` applies whole chunks in order and stops at the first refused chunk.

  `SameShape (ObjIndex.new l.descs) l.index` is a hypothesis of the batch theorems: the temporary index
  of the validation phase and the live index have the same field positions / casts / constraints.  `Inv`
  does not tie `l.index` to `l.descs`, so this cannot be derived.  It holds of a created collection
  (its index is `ObjIndex.new descs`), every insert and delete keeps it (`insertOrUpdate_shape`,
  `deleteByUUID_shape`), and the batch theorems hand it on (`SameShape l'.index l.index`, same `descs`).

  The pairwise reading of "no intra-batch conflict" (two validated objects with different uuids differ
  on every unique field) is FALSE when a uuid is repeated in the batch: see `Counter7`.  The correct
  general statement is `NoIntra` (each member is conflict-free w.r.t. the LATEST value of every other
  uuid validated before it); the pairwise form holds under `Nodup` of the uuids
  (`manyValidate_pairwise`) and always implies `NoIntra` (`noIntra_of_pairwise`).
-/
import Proofs.Crud
namespace Sod

/-! ### stores laid over one another; conflict-free batches -/

def over (T v0 : Nat → Option Obj) : Nat → Option Obj :=
  fun u => match T u with | some o => some o | none => v0 u

theorem over_none (v0 : Nat → Option Obj) : over (fun _ => none) v0 = v0 := rfl

theorem updView_over (T v0 : Nat → Option Obj) (k : Nat) (o : Obj) :
    updView (over T v0) k (some o) = over (updView T k (some o)) v0 := by
  funext w
  unfold over
  rw [updView_apply, updView_apply]
  split <;> rfl

theorem foldl_upd_over (os : List Obj) (T v0 : Nat → Option Obj) :
    os.foldl (fun v o => updView v o.uuid (some o)) (over T v0) =
      over (os.foldl (fun v o => updView v o.uuid (some o)) T) v0 := by
  induction os generalizing T with
  | nil => rfl
  | cons o os ih => rw [List.foldl_cons, List.foldl_cons, updView_over, ih]

theorem free_over {U : Nat → Prop} {T v0 : Nat → Option Obj} {o : Obj}
    (h1 : Free U T o) (h2 : Free U v0 o) : Free U (over T v0) o := by
  intro p hp u o' hu hf
  unfold over at hu
  cases hT : T u with
  | some a =>
    rw [hT] at hu
    exact h1 p hp u o' (by rw [hT]; exact hu) hf
  | none =>
    rw [hT] at hu
    exact h2 p hp u o' hu hf

/-- `T`: the latest value of every uuid that precedes in the batch -/
def NoIntra (U : Nat → Prop) : (Nat → Option Obj) → List Obj → Prop
  | _, [] => True
  | T, o :: os => Free U T o ∧ NoIntra U (updView T o.uuid (some o)) os

theorem noIntra_over {U : Nat → Prop} {v0 : Nat → Option Obj} (os : List Obj) (T : Nat → Option Obj)
    (hT : NoIntra U T os) (h0 : ∀ o ∈ os, Free U v0 o) : NoIntra U (over T v0) os := by
  induction os generalizing T with
  | nil => trivial
  | cons o os ih =>
    obtain ⟨h0o, h0'⟩ := List.forall_mem_cons.mp h0
    refine ⟨free_over hT.1 h0o, ?_⟩
    rw [updView_over]
    exact ih _ hT.2 h0'

/-! ### the validation loop -/

/-- what `InsertOrUpdateMany` validates and inserts for the input `o`.  No `assignNew`, unlike `storedObj`: the
    objects of a batch arrive identified (the driver's `zipNew` draws the uuids before the call) -/
def vald (E : Env) (descs : List FieldDesc) (o : Obj) : Obj := E.canon descs (E.transform o)

def validated (E : Env) (descs : List FieldDesc) (os : List Obj) : List Obj := os.map (vald E descs)

/-! A round of the loop has ten ways out, which `fun_cases` / `fun_induction` number in the order of
    the branches of `manyValidate` in SodModel/DB.lean (reordering them there renumbers `case5`, `case8`, …
    here): 1 the empty batch; 2 invalid; 3 unserialisable; 4, 5 `insertOrUpdate` on the temporary index
    answers an error, panics; 6, 7 `satisfyAll` on the live index answers an error, panics; 8, 9, 10 the
    rest of the batch is accepted, refused, panics. -/

theorem manyValidate_cons_ok {E : Env} {l : Loaded} {tmp : ObjIndex} {o : Obj} {os r : List Obj}
    (h : manyValidate E l tmp (o :: os) = .ok r) :
    ∃ tmp' r', r = vald E l.descs o :: r' ∧ E.validate (vald E l.descs o) = true ∧
      E.serialisable (vald E l.descs o) = true ∧ tmp.insertOrUpdate (vald E l.descs o) = .ok tmp' ∧
      l.index.satisfyAll (vald E l.descs o) = .ok () ∧ manyValidate E l tmp' os = .ok r' := by
  generalize hxs : o :: os = xs at h
  revert h
  fun_cases manyValidate E l tmp xs
  case case1 => cases hxs
  case case8 _ _ _ hv hs tmp' hu r' hm hi =>
    cases hxs
    intro h
    cases h
    rw [Bool.not_eq_true, Bool.not_eq_false'] at hv hs
    exact ⟨tmp', r', rfl, hv, hs, hi, hu, hm⟩
  all_goals exact nofun

theorem manyValidate_spec {E : Env} {l : Loaded} {tmp : ObjIndex} {os os' : List Obj}
    (h : manyValidate E l tmp os = .ok os') :
    os' = validated E l.descs os ∧
    (∀ o ∈ os', E.validate o = true ∧ E.serialisable o = true ∧ l.index.satisfyAll o = .ok ()) := by
  induction os generalizing tmp os' with
  | nil =>
    rw [manyValidate] at h
    cases h
    exact ⟨rfl, fun o ho => nomatch ho⟩
  | cons o os ih =>
    obtain ⟨tmp', r', rfl, hv, hs, _, hu, hm⟩ := manyValidate_cons_ok h
    obtain ⟨h1, h2⟩ := ih hm
    refine ⟨by rw [h1]; rfl, fun x hx => ?_⟩
    rcases List.mem_cons.mp hx with rfl | hx
    · exact ⟨hv, hs, hu⟩
    · exact h2 x hx

/-- the panics are ways 5, 7, 10; `tmp` has the shape of the live index all along -/
theorem manyValidate_ne_panic {E : Env} {l : Loaded} (os : List Obj) (tmp : ObjIndex) :
    tmp.WF → SameShape tmp l.index → (∀ o ∈ os, (vald E l.descs o).Typed l.index) →
      manyValidate E l tmp os ≠ .panic := by
  fun_induction manyValidate E l tmp os
  case case5 o os o' _ _ hi =>
    intro hw hsh ht
    have ht1 : o'.Typed _ := hsh.symm.typed (ht o List.mem_cons_self)
    rcases insertOrUpdate_total ht1 with ⟨_, hi'⟩ | hi' <;> rw [hi'] at hi <;> cases hi
  case case7 o os o' _ _ tmp' _ hu =>
    intro _ _ ht
    have ht2 : o'.Typed _ := ht o List.mem_cons_self
    rcases satisfyAll_ok_or_unique ht2.hasVal with hu' | hu' <;> rw [hu'] at hu <;> cases hu
  case case10 o os o' _ _ tmp' hi _ hm ih =>
    intro hw hsh ht
    obtain ⟨ht2, ht'⟩ := List.forall_mem_cons.mp ht
    have ht1 : o'.Typed _ := hsh.symm.typed ht2
    exact absurd hm (ih (insertOrUpdate_wf hw ht1 hi) ((insertOrUpdate_shape hi).trans hsh) ht')
  all_goals exact fun _ _ _ => nofun

/-- typing and unique positions are read on any index `ix` of the shape of `tmp`: the live index in
    `many_validated`, the temporary one in `manyValidate_pairwise` -/
theorem manyValidate_noIntra {E : Env} {l : Loaded} (os : List Obj) {tmp ix : ObjIndex} {T : Nat → Option Obj}
    {os' : List Obj} (hix : Indexes tmp T) (hsh : SameShape tmp ix) (ht : ∀ o ∈ os, (vald E l.descs o).Typed ix)
    (h : manyValidate E l tmp os = .ok os') : NoIntra (UPos ix) T os' := by
  induction os generalizing tmp T os' with
  | nil =>
    rw [manyValidate] at h
    cases h
    trivial
  | cons o os ih =>
    obtain ⟨tmp', r', rfl, _, _, hi, _, hm⟩ := manyValidate_cons_ok h
    obtain ⟨hto, ht'⟩ := List.forall_mem_cons.mp ht
    have hto' := hsh.symm.typed hto
    exact ⟨hsh.upos_eq ▸ (hix.satisfyAll_ok_iff hto').mp (insertOrUpdate_ok_iff.mp hi).1,
      ih (hix.insert hto' hi) ((insertOrUpdate_shape hi).trans hsh) ht' hm⟩

/-! ### `Coll.many` in terms of its validation phase; frame on rejection -/

/-- the `checked` value computed inside `Coll.many` -/
def manyChecked (E : Env) (l : Loaded) (os : List Obj) (w : Option (Nat × Bool)) : Res (List Obj) :=
  match w with
  | none => manyValidate E l (ObjIndex.new l.descs) os
  | some (k, identified) =>
    match manyValidate E l (ObjIndex.new l.descs) (os.take k) with
    | .ok _ => if identified then .err .wrongType else .err .notFound
    | r => r

theorem manyChecked_cases {E : Env} {l : Loaded} (os : List Obj) (w : Option (Nat × Bool)) :
    (∃ e, manyChecked E l os w = .err e) ∨
    (∃ os', manyChecked E l os w = .ok os' ∧ manyValidate E l (ObjIndex.new l.descs) os = .ok os') ∨
    (∃ k, manyValidate E l (ObjIndex.new l.descs) (os.take k) = .panic) := by
  unfold manyChecked
  cases w with
  | none =>
    cases hm : manyValidate E l (ObjIndex.new l.descs) os with
    | ok r => exact Or.inr (Or.inl ⟨r, rfl, rfl⟩)
    | err e => exact Or.inl ⟨e, rfl⟩
    | panic => exact Or.inr (Or.inr ⟨os.length, by rw [List.take_length]; exact hm⟩)
  | some p =>
    obtain ⟨k, b⟩ := p
    dsimp only
    cases hm : manyValidate E l (ObjIndex.new l.descs) (os.take k) with
    | ok r => cases b <;> exact Or.inl ⟨_, rfl⟩
    | err e => exact Or.inl ⟨e, rfl⟩
    | panic => exact Or.inr (Or.inr ⟨k, hm⟩)

theorem many_nil (E : Env) (c : Coll) (w : Option (Nat × Bool)) : c.many E [] w = (c, 0, .ok ()) := rfl

/-- the first object is the foreign one: its schema is unknown -/
theorem many_foreign_first {E : Env} {c : Coll} {os : List Obj} {w : Option (Nat × Bool)} (hne : os ≠ [])
    (hw : w.map (·.1) = some 0) : c.many E os w = (c, 0, .err .notFound) := by
  unfold Coll.many
  rw [if_neg (mt List.isEmpty_iff.mp hne), if_pos (by rw [hw]; rfl)]

theorem many_unfold {E : Env} {c : Coll} {os : List Obj} {w : Option (Nat × Bool)}
    (hne : os ≠ []) (hw : w.map (·.1) ≠ some 0) :
    c.many E os w =
      match c.schema with
      | (c, .ok l) =>
        match manyChecked E l os w with
        | .err e => (c, 0, .err e)
        | .panic => (c, 0, .panic)
        | .ok os' =>
          match Coll.manyInsert E c l os' 0 with
          | (c', l', n, e) => (c'.commit l', n, match e with | none => .ok () | some e => .err e)
      | (c, .err e) => (c, 0, .err e)
      | (c, .panic) => (c, 0, .panic) := by
  unfold Coll.many
  rw [if_neg (mt List.isEmpty_iff.mp hne), if_neg (by rwa [beq_iff_eq])]
  rfl

theorem many_checked_err {E : Env} {c : Coll} {l : Loaded} (h : Inv c l) (os : List Obj)
    (w : Option (Nat × Bool)) (e : Err) (hne : os ≠ []) (hw : w.map (·.1) ≠ some 0)
    (hc : manyChecked E l os w = .err e) : c.many E os w = (c, 0, .err e) := by
  rw [many_unfold hne hw, schema_of_inv h]
  simp only [hc]

/-- `manyChecked … = .err e → c.many E os w = (c, 0, .err e)` is false for the empty batch (which is
    accepted before anything is looked at), hence `hne` above; and when the first object is the foreign
    one (`hw`) the answer is `notFound` whatever `checked` would be. -/
theorem many_checked_err_counterexample :
    ∃ (E : Env) (c : Coll) (l : Loaded) (w : Option (Nat × Bool)) (e : Err), Inv c l ∧
      manyChecked E l [] w = .err e ∧ c.many E [] w ≠ (c, 0, .err e) :=
  ⟨Counter.E0, Counter.c0, Counter.l0, some (1, true), .wrongType, Counter.inv0, rfl, fun h => nomatch h⟩

set_option linter.unusedVariables false in  -- `hr`, and with it `e`, is not used: `hv` alone decides
theorem many_rejected_frame {E : Env} {c : Coll} {l : Loaded} (h : Inv' c l) (os : List Obj)
    (w : Option (Nat × Bool)) (e : Err) (hr : (c.many E os w).2.2 = Res.err e)
    (hv : w.map (·.1) = some 0 ∨ ∃ e', manyChecked E l os w = .err e') :
    (c.many E os w).1 = c ∧ (c.many E os w).2.1 = 0 := by
  by_cases hne : os = []
  · rw [hne, many_nil]
    exact ⟨rfl, rfl⟩
  by_cases hw : w.map (·.1) = some 0
  · rw [many_foreign_first hne hw]
    exact ⟨rfl, rfl⟩
  · obtain ⟨e', hc⟩ := hv.resolve_left hw
    rw [many_checked_err h.toInv os w e' hne hw hc]
    exact ⟨rfl, rfl⟩

/-! ### the insertion loop cannot be refused after validation -/

/-- what an applied batch (or chunk) leaves, started from `l`: the state `c'`, `l'` with the view `v` -/
structure Applied (l : Loaded) (c' : Coll) (l' : Loaded) (v : Nat → Option Obj) : Prop where
  inv : Inv' c' l'
  view : c'.view = v
  settings : l'.settings = l.settings
  descs : l'.descs = l.descs
  shape : SameShape l'.index l.index

theorem manyInsert_core {E : Env} : ∀ (os' : List Obj) (c : Coll) (l : Loaded) (n : Nat), Inv' c l →
    (∀ o ∈ os', o.Typed l.index ∧ E.serialisable o = true) → NoIntra (UPos l.index) c.view os' →
    ∃ c' l', Coll.manyInsert E c l os' n = (c', l', n + os'.length, none) ∧
      Applied l c' l' (os'.foldl (fun v o => updView v o.uuid (some o)) c.view) := by
  intro os'
  induction os' with
  | nil =>
    intro c l _ h _ _
    exact ⟨c, l, rfl, { inv := h, view := rfl, settings := rfl, descs := rfl, shape := SameShape.refl _ }⟩
  | cons o os ih =>
    intro c l n h hall ⟨hfree, hrest⟩
    obtain ⟨⟨hto, hso⟩, hall'⟩ := List.forall_mem_cons.mp hall
    obtain ⟨ix', hr, h1, hi1, hv1⟩ := insertCore_accept_eq (E := E) false h hto hso
      ((h.toInv.indexes.satisfyAll_ok_iff hto).mpr hfree)
    have hsh : SameShape ix' l.index := insertOrUpdate_shape hr
    obtain ⟨c', l', he, a⟩ := ih _ { l with index := ix' } (n + 1) hi1
      (fun x hx => ⟨insertOrUpdate_typed hr (hall' x hx).1, (hall' x hx).2⟩)
      (hsh.upos_eq ▸ hv1 ▸ hrest)
    refine ⟨c', l', ?_, { a with view := ?_, shape := a.shape.trans hsh }⟩
    · rw [Coll.manyInsert, h1]
      show Coll.manyInsert E _ _ os (n + 1) = _
      rw [he, List.length_cons, Nat.add_assoc, Nat.add_comm 1]
    · rw [a.view, hv1, List.foldl_cons]

/-- `hintra` is what `manyValidate_noIntra` gives for the temporary index, whose unique positions are
    those of the live index by `SameShape`.  Repeated uuids are allowed, and so is uuid 0 (the model's
    `insertCore` never looks at it). -/
theorem manyInsert_all_ok {E : Env} {c : Coll} {l : Loaded} (h : Inv' c l) (os' : List Obj)
    (ht : ∀ o ∈ os', o.Typed l.index) (hs : ∀ o ∈ os', E.serialisable o = true)
    (hlive : ∀ o ∈ os', l.index.satisfyAll o = .ok ())
    (hintra : NoIntra (UPos l.index) (fun _ => none) os') :
    ∃ c' l', Coll.manyInsert E c l os' 0 = (c', l', os'.length, none) ∧
      Applied l c' l' (os'.foldl (fun v o => updView v o.uuid (some o)) c.view) := by
  -- `over (fun _ => none) c.view` is `c.view` (`over_none`)
  have := manyInsert_core (E := E) os' c l 0 h (fun o ho => ⟨ht o ho, hs o ho⟩)
    (noIntra_over (v0 := c.view) os' (fun _ => none) hintra fun o ho =>
      (h.toInv.indexes.satisfyAll_ok_iff (ht o ho)).mp (hlive o ho))
  rwa [Nat.zero_add] at this

/-! #### the pairwise reading of "no intra-batch conflict" -/

def PairFree (U : Nat → Prop) (a b : Obj) : Prop := a.uuid ≠ b.uuid → ∀ p, U p → a.field p ≠ b.field p

theorem noIntra_of_pairwise {U : Nat → Prop} : ∀ (os : List Obj) (T : Nat → Option Obj),
    (∀ u a, T u = some a → a.uuid = u ∧ ∀ b ∈ os, PairFree U a b) → os.Pairwise (PairFree U) →
    NoIntra U T os := by
  intro os
  induction os with
  | nil =>
    intro _ _ _
    trivial
  | cons o os ih =>
    intro T hT hp
    obtain ⟨hhead, htail⟩ := List.pairwise_cons.mp hp
    refine ⟨?_, ih _ ?_ htail⟩
    · intro p hp u a hu hf
      apply Classical.byContradiction
      intro hne
      obtain ⟨h1, h2⟩ := hT u a hu
      exact h2 o List.mem_cons_self (by rw [h1]; exact hne) p hp hf
    · intro u a hu
      rw [updView_apply] at hu
      by_cases hk : u = o.uuid
      · rw [if_pos hk] at hu
        injection hu with hu
        subst hu
        exact ⟨hk.symm, hhead⟩
      · rw [if_neg hk] at hu
        obtain ⟨h1, h2⟩ := hT u a hu
        exact ⟨h1, fun b hb => h2 b (List.mem_cons_of_mem _ hb)⟩

theorem noIntra_mem {U : Nat → Prop} : ∀ (os : List Obj) (T : Nat → Option Obj) (u : Nat) (a : Obj),
    NoIntra U T os → T u = some a → u ∉ os.map (·.uuid) → ∀ b ∈ os, ∀ p, U p → a.field p ≠ b.field p := by
  intro os
  induction os with
  | nil =>
    intro _ _ _ _ _ _ b hb
    cases hb
  | cons o os ih =>
    intro T u a hni hu hnot b hb p hp hf
    obtain ⟨h1, h2⟩ := hni
    rw [List.map_cons, List.mem_cons, not_or] at hnot
    rcases List.mem_cons.mp hb with rfl | hb
    · exact hnot.1 (h1 p hp u a hu hf)
    · exact ih (updView T o.uuid (some o)) u a h2 (by rw [updView_apply, if_neg hnot.1]; exact hu) hnot.2 b hb p hp hf

theorem pairwise_of_noIntra {U : Nat → Prop} : ∀ (os : List Obj) (T : Nat → Option Obj),
    NoIntra U T os → (os.map (·.uuid)).Nodup → os.Pairwise (fun a b => ∀ p, U p → a.field p ≠ b.field p) := by
  intro os
  induction os with
  | nil =>
    intro _ _ _
    exact List.Pairwise.nil
  | cons o os ih =>
    intro T hni hnd
    obtain ⟨_, h2⟩ := hni
    rw [List.map_cons, List.nodup_cons] at hnd
    refine List.pairwise_cons.mpr ⟨?_, ih _ h2 hnd.2⟩
    intro b hb p hp
    exact noIntra_mem os _ o.uuid o h2 (by rw [updView_apply, if_pos rfl]) hnd.1 b hb p hp

theorem manyValidate_pairwise {E : Env} {l : Loaded} {os os' : List Obj}
    (ht : ∀ o ∈ os, (vald E l.descs o).Typed (ObjIndex.new l.descs))
    (h : manyValidate E l (ObjIndex.new l.descs) os = .ok os') (hnd : (os'.map (·.uuid)).Nodup) :
    os'.Pairwise (fun a b => ∀ p, UPos (ObjIndex.new l.descs) p → a.field p ≠ b.field p) :=
  pairwise_of_noIntra os' _ (manyValidate_noIntra os (Indexes.new _) (SameShape.refl _) ht h) hnd

theorem manyInsert_all_ok_of_pairwise {E : Env} {c : Coll} {l : Loaded} (h : Inv' c l) (os' : List Obj)
    (ht : ∀ o ∈ os', o.Typed l.index) (hs : ∀ o ∈ os', E.serialisable o = true)
    (hlive : ∀ o ∈ os', l.index.satisfyAll o = .ok ())
    (hpair : os'.Pairwise (PairFree (UPos l.index))) :
    ∃ c' l', Coll.manyInsert E c l os' 0 = (c', l', os'.length, none) ∧ Inv' c' l' ∧
      c'.view = os'.foldl (fun v o => updView v o.uuid (some o)) c.view ∧
      l'.settings = l.settings ∧ l'.descs = l.descs ∧ SameShape l'.index l.index :=
  let ⟨c', l', he, a⟩ := manyInsert_all_ok h os' ht hs hlive
    (noIntra_of_pairwise os' _ (fun u a hu => by cases hu) hpair)
  ⟨c', l', he, a.inv, a.view, a.settings, a.descs, a.shape⟩

/-! ### a batch is all-or-nothing -/

theorem many_validated {E : Env} {c : Coll} {l : Loaded} (h : Inv' c l) (os os' : List Obj)
    (ht : ∀ o ∈ os, (vald E l.descs o).Typed l.index)
    (hsh : SameShape (ObjIndex.new l.descs) l.index)
    (hm : manyValidate E l (ObjIndex.new l.descs) os = .ok os') :
    os' = validated E l.descs os ∧
    ∃ c' l', Coll.manyInsert E c l os' 0 = (c', l', os.length, none) ∧
      Applied l c' l' (os'.foldl (fun v o => updView v o.uuid (some o)) c.view) := by
  obtain ⟨hos', hval⟩ := manyValidate_spec hm
  have hni : NoIntra (UPos l.index) (fun _ => none) os' := manyValidate_noIntra os (Indexes.new _) hsh ht hm
  have hty : ∀ x ∈ os', x.Typed l.index := by
    intro x hx
    rw [hos'] at hx
    obtain ⟨o, ho, rfl⟩ := List.mem_map.mp hx
    exact ht o ho
  have := manyInsert_all_ok (E := E) h os' hty (fun x hx => (hval x hx).2.1) (fun x hx => (hval x hx).2.2) hni
  rw [show os'.length = os.length by rw [hos']; exact List.length_map ..] at this
  exact ⟨hos', this⟩

/-- C07 for `InsertOrUpdateMany`.  In the second case `c'` is the state of the insertion loop with the schema
    committed (in every mode), except for the empty batch, which is accepted and commits nothing (`many_nil`). -/
theorem C07_many_atomic {E : Env} {c : Coll} {l : Loaded} (h : Inv' c l) (os : List Obj)
    (w : Option (Nat × Bool)) (ht : ∀ o ∈ os, (vald E l.descs o).Typed l.index)
    (hsh : SameShape (ObjIndex.new l.descs) l.index) :
    (∃ e, c.many E os w = (c, 0, .err e)) ∨
    (∃ c' l', c.many E os w = (c', os.length, .ok ()) ∧ Inv' c' l' ∧
      c'.view = (validated E l.descs os).foldl (fun v o => updView v o.uuid (some o)) c.view ∧
      l'.settings = l.settings ∧ l'.descs = l.descs ∧ SameShape l'.index l.index) := by
  by_cases hne : os = []
  · rw [hne]
    exact Or.inr ⟨c, l, many_nil E c w, h, rfl, rfl, rfl, SameShape.refl _⟩
  by_cases hw : w.map (·.1) = some 0
  · exact Or.inl ⟨_, many_foreign_first hne hw⟩
  rcases manyChecked_cases (E := E) (l := l) os w with ⟨e, hc⟩ | ⟨os', hc, hm⟩ | ⟨k, hp⟩
  · exact Or.inl ⟨e, many_checked_err h.toInv os w e hne hw hc⟩
  · obtain ⟨hos', c1, l1, he, a⟩ := many_validated h os os' ht hsh hm
    refine Or.inr ⟨c1.commit l1, l1, ?_, (Inv'.commit_iff l1).mpr a.inv, ?_, a.settings, a.descs, a.shape⟩
    · rw [many_unfold hne hw, schema_of_inv h.toInv]
      simp only [hc, he]
    · rw [view_commit, a.view, hos']
  · exact absurd hp (manyValidate_ne_panic _ _ (new_wf _) hsh fun o ho => ht o (List.mem_of_mem_take ho))

/-! ### chunks -/

theorem chunks_go_concat (k : Nat) (fuel : Nat) (os : List Obj) : (chunks.go k fuel os).flatten = os := by
  fun_induction chunks.go k fuel os
  · exact List.flatten_singleton ..
  · exact List.flatten_singleton ..
  · next ih => rw [List.flatten_cons, ih, List.take_append_drop]

theorem chunks_concat (k : Nat) (os : List Obj) : (chunks k os).flatten = os := by
  unfold chunks
  split
  · exact List.flatten_singleton ..
  · exact chunks_go_concat k _ os

theorem chunks_go_sizes (k : Nat) (hk : 0 < k) (fuel : Nat) (os : List Obj) : os.length ≤ fuel →
    ∃ init last, chunks.go k fuel os = init ++ [last] ∧ (∀ ch ∈ init, ch.length = k) ∧ last.length < k := by
  fun_induction chunks.go k fuel os
  · exact fun hl => ⟨[], _, rfl, nofun, Nat.lt_of_le_of_lt hl hk⟩
  · next hlt => exact fun _ => ⟨[], _, rfl, nofun, hlt⟩
  · next os f hge ih =>
    intro hl
    obtain ⟨init, last, h1, h2, h3⟩ := ih (by
      rw [List.length_drop]
      exact Nat.sub_le_of_le_add (Nat.le_trans hl (Nat.add_le_add_left hk f)))
    refine ⟨os.take k :: init, last, by rw [h1]; rfl, List.forall_mem_cons.mpr ⟨?_, h2⟩, h3⟩
    rw [List.length_take]
    exact Nat.min_eq_left (Nat.le_of_not_lt hge)

theorem chunks_sizes (k : Nat) (hk : 0 < k) (os : List Obj) :
    ∃ init last, chunks k os = init ++ [last] ∧ (∀ ch ∈ init, ch.length = k) ∧ last.length < k := by
  unfold chunks
  rw [if_neg (Nat.ne_of_gt hk)]
  exact chunks_go_sizes k hk _ os (Nat.le_refl _)

theorem chunks_zero (os : List Obj) : chunks 0 os = [os] := rfl

/-! ### `InsertOrUpdateBulk` -/

/-- C07 over any list of chunks, for the loop of `InsertOrUpdateBulk` started with a count of `n` -/
theorem bulk_go_atomic {E : Env} : ∀ (chs : List (List Obj)) (c : Coll) (l : Loaded) (n : Nat), Inv' c l →
    SameShape (ObjIndex.new l.descs) l.index →
    (∀ ch ∈ chs, ∀ o ∈ ch, (vald E l.descs o).Typed l.index) →
    ∃ (done rest : List (List Obj)) (c' : Coll) (l' : Loaded) (r : Res Unit),
      chs = done ++ rest ∧ Coll.bulk.go E c n chs = (c', n + done.flatten.length, r) ∧ Inv' c' l' ∧
      c'.view = (validated E l.descs done.flatten).foldl (fun v o => updView v o.uuid (some o)) c.view ∧
      ((rest = [] ∧ r = .ok ()) ∨
       (∃ ch rest' e, rest = ch :: rest' ∧ r = .err e ∧ Coll.many E c' ch = (c', 0, .err e))) := by
  intro chs
  induction chs with
  | nil =>
    intro c l n h _ _
    exact ⟨[], [], c, l, .ok (), rfl, rfl, h, rfl, Or.inl ⟨rfl, rfl⟩⟩
  | cons ch chs ih =>
    intro c l n h hsh ht
    rcases C07_many_atomic (E := E) h ch none (ht ch List.mem_cons_self) hsh with
      ⟨e, he⟩ | ⟨c1, l1, he, hi1, hv1, _, hd1, hs1⟩
    · refine ⟨[], ch :: chs, c, l, .err e, rfl, ?_, h, rfl, Or.inr ⟨ch, chs, e, rfl, rfl, he⟩⟩
      rw [Coll.bulk.go, he]
      rfl
    · obtain ⟨done, rest, c', l', r, hcs, hgo, hi', hv', hr⟩ := ih c1 l1 (n + ch.length) hi1
        (by rw [hd1]; exact hsh.trans hs1.symm)
        (fun ch' hch' o ho => by
          rw [hd1]
          exact hs1.symm.typed (ht ch' (List.mem_cons_of_mem _ hch') o ho))
      refine ⟨ch :: done, rest, c', l', r, by rw [hcs]; rfl, ?_, hi', ?_, hr⟩
      · rw [Coll.bulk.go, he]
        show Coll.bulk.go E c1 (n + ch.length) chs = _
        rw [hgo, List.flatten_cons, List.length_append, Nat.add_assoc]
      · rw [hv', hv1, hd1]
        simp only [validated, List.flatten_cons, List.map_append, List.foldl_append]

/-- C07 for `InsertOrUpdateBulk` -/
theorem C07_bulk {E : Env} {c : Coll} {l : Loaded} (h : Inv' c l) (os : List Obj) (k : Nat)
    (ht : ∀ o ∈ os, (vald E l.descs o).Typed l.index)
    (hsh : SameShape (ObjIndex.new l.descs) l.index) :
    ∃ (done rest : List (List Obj)) (c' : Coll) (l' : Loaded) (r : Res Unit),
      chunks k os = done ++ rest ∧ done.flatten ++ rest.flatten = os ∧
      Coll.bulk E c os k = (c', done.flatten.length, r) ∧ Inv' c' l' ∧
      c'.view = (validated E l.descs done.flatten).foldl (fun v o => updView v o.uuid (some o)) c.view ∧
      ((rest = [] ∧ r = .ok ()) ∨
       (∃ ch rest' e, rest = ch :: rest' ∧ r = .err e ∧ Coll.many E c' ch = (c', 0, .err e))) := by
  obtain ⟨done, rest, c', l', r, hcs, hgo, hi', hv', hr⟩ := bulk_go_atomic (E := E) (chunks k os) c l 0 h hsh
    (fun ch hch o ho => ht o (by
      rw [← chunks_concat k os]
      exact List.mem_flatten.mpr ⟨ch, hch, ho⟩))
  refine ⟨done, rest, c', l', r, hcs, ?_, by rw [Coll.bulk, hgo, Nat.zero_add], hi', hv', hr⟩
  rw [← List.flatten_append, ← hcs, chunks_concat]

/-! ### why the pairwise form of "no intra-batch conflict" needs `Nodup`

  One unique string field.  Batch `[a, a', b]`: `a` and `a'` are the same object (uuid 1) with values
  "\x01" then "\x02"; `b` (uuid 2) has value "\x01".  When `b` is validated the temporary index holds
  the LATEST value of uuid 1 ("\x02"), so `b` is accepted — yet `a` and `b` have different uuids and the
  same value on the unique field.  (The batch is nevertheless applied entirely, and legitimately so:
  when `b` is inserted the live index also holds "\x02" for uuid 1.  This is what `NoIntra` captures.) -/

namespace Counter7

def descs : List FieldDesc := [{ path := "F", type := "string", cast := some .str, cons := { unique := true } }]
def l0 : Loaded := { descs := descs, settings := {}, index := ObjIndex.new descs }
def E0 : Env := { up := id, lo := id, transform := id, validate := fun _ => true, compile := fun _ => none,
                  serialisable := fun _ => true }
def a  : Obj := { uuid := 1, shape := "", vals := [.v (.str [1])] }
def a' : Obj := { uuid := 1, shape := "", vals := [.v (.str [2])] }
def b  : Obj := { uuid := 2, shape := "", vals := [.v (.str [1])] }

theorem accepted : manyValidate E0 l0 (ObjIndex.new l0.descs) [a, a', b] = .ok [a, a', b] := by decide +kernel

theorem fields_eq : (ObjIndex.new l0.descs).fields =
    [{ name := "F", pos := 0, cast := .str, cons := { unique := true }, idx := [] }] := rfl

theorem typed : ∀ o ∈ [a, a', b], (vald E0 l0.descs o).Typed (ObjIndex.new l0.descs) := by
  intro o ho fi hfi
  rw [fields_eq, List.mem_singleton] at hfi
  subst hfi
  simp only [List.mem_cons, List.not_mem_nil, or_false] at ho
  rcases ho with rfl | rfl | rfl
  · exact ⟨.str [1], rfl, rfl⟩
  · exact ⟨.str [2], rfl, rfl⟩
  · exact ⟨.str [1], rfl, rfl⟩

end Counter7

open Counter7 in
theorem manyValidate_pairwise_counterexample :
    ∃ (E : Env) (l : Loaded) (os os' : List Obj),
      (∀ o ∈ os, (vald E l.descs o).Typed (ObjIndex.new l.descs)) ∧
      SameShape (ObjIndex.new l.descs) l.index ∧
      manyValidate E l (ObjIndex.new l.descs) os = .ok os' ∧
      ¬ os'.Pairwise (PairFree (UPos (ObjIndex.new l.descs))) := by
  refine ⟨E0, l0, [a, a', b], [a, a', b], typed, rfl, accepted, ?_⟩
  intro hp
  have h := (List.pairwise_cons.mp hp).1 b (.tail _ (.head _)) (by decide) 0
    ⟨_, by rw [fields_eq]; exact List.mem_singleton.mpr rfl, rfl, rfl⟩
  exact h rfl

end Sod
