/-
  C10: asynchronous writes.

  "Visible at once, flushed by threshold/timeout, complete at Close; an object deleted while
  pending never appears on disk."  The flusher body runs under the write lock, so "all relative
  timings" are all interleavings of `Coll.tick` with the other calls: every theorem about `tick`
  below holds in *any* state satisfying the invariant.

  `Inv'` alone is NOT enough for the flush: it does not forbid two pending entries under the same
  uuid (`get?` reads the first, the flush leaves the last on disk), see
  `flushAll_view_counterexample`.  The pending store is only ever built by `put`/`erase`, which keep
  its keys distinct: this is the extra, explicitly named hypothesis `PendNodup`, which the calls of
  `ACall`, the poll of the flusher among them, keep (`call_inv`).
-/
import Proofs.Crud
namespace Sod

/-! ### the pending store has distinct keys -/

def PendNodup (c : Coll) : Prop := c.pending.keys.Nodup

theorem PendNodup.of_nil {c : Coll} (h : c.pending = []) : PendNodup c := by
  unfold PendNodup
  rw [h]
  exact List.nodup_nil

theorem PendNodup.congr {c c' : Coll} (h : PendNodup c) (hp : c'.pending = c.pending) : PendNodup c' := by
  unfold PendNodup
  rw [hp]
  exact h

theorem PendNodup.put {c c' : Coll} (h : PendNodup c) {o : Obj} (hp : c'.pending = c.pending.put o) :
    PendNodup c' := by
  unfold PendNodup
  rw [hp]
  exact OMap.keys_nodup_putR h o

theorem PendNodup.erase {c c' : Coll} (h : PendNodup c) {u : Nat} (hp : c'.pending = c.pending.erase u) :
    PendNodup c' := by
  unfold PendNodup
  rw [hp]
  exact OMap.keys_nodup_eraseR h u

theorem PendNodup.of_eq {α : Type} {x : Coll × α} {c' : Coll} {r : α} (h : PendNodup x.1) (hx : x = (c', r)) :
    PendNodup c' := by
  subst hx
  exact h

/-- the six ways out of `insertCore`: the state it was given, that state with the object written
    (pending or to its file), or the latter with the schema, the cache and possibly a commit on top -/
theorem PendNodup.insertCore {E : Env} {c : Coll} (h : PendNodup c) (l : Loaded) (o : Obj) (commit : Bool) :
    PendNodup (Coll.insertCore E c l o commit).1 := by
  have h1 : PendNodup (if l.settings.async.isSome then { c with pending := c.pending.put o }
      else (c.fs .mkdir).fs (.writeObj o)) := by
    split
    · exact h.put rfl
    · exact h.congr (by simp only [fs_pending])
  fun_cases Coll.insertCore E c l o commit
  · exact h
  · exact h
  · exact h
  · exact h1
  · exact h1
  · next c1 _ _ l' c2 c3 c4 =>
    exact (show PendNodup c1 from h1).congr
      (by simp only [c4, c3, c2, apply_ite Coll.pending, commit_pending, setMem_pending, ite_self])

theorem PendNodup.deleteCore {c : Coll} (h : PendNodup c) (l : Loaded) (u : Nat) :
    PendNodup (c.deleteCore l u).1 := by
  unfold Coll.deleteCore
  simp only [PendNodup, apply_ite Coll.pending, setMem_pending, fs_pending, ite_self]
  split
  · exact OMap.keys_nodup_eraseR h u
  · exact h

theorem PendNodup.schema {c : Coll} (h : PendNodup c) : PendNodup (c.schema).1 := h.congr (schema_sameDir c).pending

theorem PendNodup.insert {c : Coll} (h : PendNodup c) (E : Env) (o : Obj) (fresh : Nat) :
    PendNodup (c.insert E o fresh).1 := by
  -- invalid; `insertCore` answers ok, an error, panics; the schema access answers an error, panics.
  -- As with every `fun_cases` in this file, the cases come in the order of the branches of the `def`
  -- (here `Coll.insert` in SodModel/DB.lean): reordering the branches there renumbers them here
  fun_cases Coll.insert E c o fresh
  · next hs _ _ => exact h.schema.of_eq hs
  · next hs _ _ _ _ hi => exact ((h.schema.of_eq hs).insertCore _ _ true).of_eq hi
  · next hs _ _ _ _ hi => exact ((h.schema.of_eq hs).insertCore _ _ true).of_eq hi
  · next hs _ _ _ hi => exact ((h.schema.of_eq hs).insertCore _ _ true).of_eq hi
  · next hs => exact h.schema.of_eq hs
  · next hs => exact h.schema.of_eq hs

theorem PendNodup.delete {c : Coll} (h : PendNodup c) (u : Nat) : PendNodup (c.delete u).1 := by
  -- `deleteCore` answers ok, an error, panics; the schema access answers an error, panics
  fun_cases Coll.delete c u
  · next hs _ _ hd => exact (((h.schema.of_eq hs).deleteCore _ u).of_eq hd).congr (commit_pending _ _)
  · next hs _ _ hd => exact (((h.schema.of_eq hs).deleteCore _ u).of_eq hd).congr (commit_pending _ _)
  · next hs _ hd => exact ((h.schema.of_eq hs).deleteCore _ u).of_eq hd
  · next hs => exact h.schema.of_eq hs
  · next hs => exact h.schema.of_eq hs

theorem PendNodup.get {c : Coll} (h : PendNodup c) (u : Nat) : PendNodup (c.get u).1 :=
  h.congr (get_sameDir c u).pending

/-! ### `flushAll`

  Everything about the flush is read off one description of its loop (`flushFold_spec`): only the
  directory and the log change, the files receive the entries in order, the schema file stays. -/

/-- the loop of `flushAll` over an arbitrary list of entries -/
def flushFold (c : Coll) (ps : OMap) : Coll := ps.foldl (fun c p => (c.fs .mkdir).fs (.writeObj p.2)) c

theorem flushFold_nil (c : Coll) : flushFold c [] = c := rfl
theorem flushFold_cons (c : Coll) (p : Nat × Obj) (t : OMap) :
    flushFold c (p :: t) = flushFold ((c.fs .mkdir).fs (.writeObj p.2)) t := rfl

theorem flushAll_eq (c : Coll) : c.flushAll = { flushFold c c.pending with pending := [] } := rfl

theorem flushFold_spec (c : Coll) (ps : OMap) :
    ∃ d ops, flushFold c ps = { c with disk := d, log := c.log ++ ops } ∧
      d.files = OMap.putAll c.disk.files ps ∧ d.schema = c.disk.schema ∧
      ops.filter (· != FsOp.mkdir) = ps.map (fun p => FsOp.writeObj p.2) := by
  induction ps generalizing c with
  | nil => exact ⟨c.disk, [], by rw [List.append_nil]; rfl, rfl, rfl, rfl⟩
  | cons p t ih =>
    obtain ⟨ops1, h1, hm⟩ := fs_mkdir_eq c
    obtain ⟨d, ops2, h2, hf, hs, hl⟩ := ih ((c.fs .mkdir).fs (.writeObj p.2))
    rw [h1] at h2 hf hs
    refine ⟨d, ops1 ++ .writeObj p.2 :: ops2, ?_, hf, hs, ?_⟩
    · rw [flushFold_cons, h1, h2]
      simp only [Coll.fs, List.append_assoc, List.singleton_append]
    · rw [List.filter_append, List.filter_eq_nil_iff.mpr fun x hx => by rw [hm x hx]; decide, List.nil_append,
        List.filter_cons_of_pos rfl, hl]
      rfl

theorem flushAll_spec (c : Coll) :
    ∃ d ops, c.flushAll = { c with disk := d, log := c.log ++ ops, pending := [] } ∧
      d.files = OMap.putAll c.disk.files c.pending ∧ d.schema = c.disk.schema ∧
      ops.filter (· != FsOp.mkdir) = c.pending.map (fun p => FsOp.writeObj p.2) := by
  obtain ⟨d, ops, h, hr⟩ := flushFold_spec c c.pending
  exact ⟨d, ops, by rw [flushAll_eq, h], hr⟩

@[simp] theorem flushFold_pending (c : Coll) (ps : OMap) : (flushFold c ps).pending = c.pending := by
  obtain ⟨_, _, h, _⟩ := flushFold_spec c ps
  rw [h]

@[simp] theorem flushAll_mem (c : Coll) : c.flushAll.mem = c.mem := by
  obtain ⟨_, _, h, _⟩ := flushAll_spec c
  rw [h]

@[simp] theorem flushAll_cache (c : Coll) : c.flushAll.cache = c.cache := by
  obtain ⟨_, _, h, _⟩ := flushAll_spec c
  rw [h]

@[simp] theorem flushAll_live (c : Coll) : c.flushAll.live = c.live := by
  obtain ⟨_, _, h, _⟩ := flushAll_spec c
  rw [h]

@[simp] theorem flushAll_schema (c : Coll) : c.flushAll.disk.schema = c.disk.schema := by
  obtain ⟨_, _, h, _, hs, _⟩ := flushAll_spec c
  rw [h]
  exact hs

@[simp] theorem flushAll_pending (c : Coll) : c.flushAll.pending = [] := rfl

theorem flushAll_files_eq (c : Coll) : c.flushAll.disk.files = OMap.putAll c.disk.files c.pending := by
  obtain ⟨_, _, h, hf, _⟩ := flushAll_spec c
  rw [h]
  exact hf

/-- `hk` is `Inv.keyedP` -/
theorem flushAll_files_view {c : Coll} (hk : c.pending.Keyed) (hn : PendNodup c) (u : Nat) :
    c.flushAll.disk.files.get? u = c.view u := by
  rw [flushAll_files_eq, OMap.get?_putAll hk hn]
  rfl

theorem flushAll_view {c : Coll} (hk : c.pending.Keyed) (hn : PendNodup c) : c.flushAll.view = c.view := by
  funext u
  rw [view_nopend (flushAll_pending c), flushAll_files_view hk hn]

theorem flushAll_inv {c : Coll} {l : Loaded} (h : Inv' c l) (hn : PendNodup c) : Inv' c.flushAll l := by
  have hv := flushAll_view h.keyedP hn
  exact { h with
    mem := by rw [flushAll_mem]; exact h.mem
    refl := by rw [hv]; exact h.refl
    dom := by rw [hv]; exact h.dom
    typed := by rw [hv]; exact h.typed
    cacheOk := by rw [hv, flushAll_cache]; exact h.cacheOk
    pendCached := fun u o hg => nomatch hg
    syncNoPend := fun _ => rfl
    keyedF := by rw [flushAll_files_eq]; exact h.keyedF.putAll _
    keyedP := OMap.Keyed.nil
    keyedC := by rw [flushAll_cache]; exact h.keyedC
    cacheOff := by rw [flushAll_cache]; exact h.cacheOff }

theorem flushAll_files {c : Coll} {l : Loaded} (h : Inv' c l) (hn : PendNodup c) (u : Nat) (o : Obj)
    (hp : c.pending.get? u = some o) : c.flushAll.disk.files.get? u = some o := by
  rw [flushAll_files_view h.keyedP hn, view_eq, hp]

theorem flushAll_idem (c : Coll) (hp : c.pending = []) : c.flushAll = c := by
  rw [flushAll_eq, hp, flushFold_nil]
  cases c
  simp only at hp
  subst hp
  rfl

/-! ### flush and commit: what `Close`, `FlushAllAndCommit` and a due poll of the flusher do -/

/-- what `Synced` (Proofs/Reopen.lean) says of schema file and pending store, plus the files; `Synced` adds
    that the directory exists, which a commit provides (`commit_dir`) -/
structure Flushed (v : Nat → Option Obj) (img : SchemaImg) (c : Coll) : Prop where
  pending : c.pending = []
  files : ∀ u, c.disk.files.get? u = v u
  schema : c.disk.schema = some img

theorem Flushed.congr {v : Nat → Option Obj} {img : SchemaImg} {c c' : Coll} (h : Flushed v img c)
    (hp : c'.pending = c.pending) (hd : c'.disk = c.disk) : Flushed v img c' :=
  ⟨hp.trans h.pending, fun u => by rw [hd]; exact h.files u, by rw [hd]; exact h.schema⟩

theorem Flushed.of_pending {c c' : Coll} {img : SchemaImg} (h : Flushed c.view img c') {u : Nat} {o : Obj}
    (hp : c.pending.get? u = some o) : c'.disk.files.get? u = some o := by
  rw [h.files, view_eq, hp]

theorem flushAll_commit_flushed {c : Coll} {l : Loaded} (h : Inv' c l) (hn : PendNodup c) :
    Flushed c.view l.img (c.flushAll.commit l) :=
  ⟨commit_pending _ _, fun u => by rw [commit_files, flushAll_files_view h.keyedP hn], commit_schema _ _⟩

theorem flushAll_commit_inv {c : Coll} {l : Loaded} (h : Inv' c l) (hn : PendNodup c) :
    Inv' (c.flushAll.commit l) l ∧ (c.flushAll.commit l).view = c.view ∧ PendNodup (c.flushAll.commit l) := by
  refine ⟨(Inv'.commit_iff l).mpr (flushAll_inv h hn), ?_, PendNodup.of_nil (commit_pending _ _)⟩
  rw [← flushAll_view h.keyedP hn]
  exact view_commit _ _

theorem close_eq {c : Coll} {l : Loaded} (hm : c.mem = some l) : c.close = (c.flushAll.commit l, Res.ok ()) := by
  simp only [Coll.close, flushAll_mem, hm]

theorem flushAllAndCommit_eq {c : Coll} {l : Loaded} (h : Inv' c l) (hn : PendNodup c) :
    c.flushAllAndCommit = (c.flushAll.commit l, Res.ok ()) := by
  simp only [Coll.flushAllAndCommit, schema_of_inv (flushAll_inv h hn).toInv]

theorem close_flushed {c : Coll} {l : Loaded} (h : Inv' c l) (hn : PendNodup c) :
    Flushed c.view l.img (c.close).1 := by
  rw [close_eq h.mem]
  exact flushAll_commit_flushed h hn

theorem close_inv {c : Coll} {l : Loaded} (h : Inv' c l) (hn : PendNodup c) :
    Inv' (c.close).1 l ∧ (c.close).1.view = c.view ∧ PendNodup (c.close).1 := by
  rw [close_eq h.mem]
  exact flushAll_commit_inv h hn

theorem flushAllAndCommit_flushed {c : Coll} {l : Loaded} (h : Inv' c l) (hn : PendNodup c) :
    Flushed c.view l.img (c.flushAllAndCommit).1 := by
  rw [flushAllAndCommit_eq h hn]
  exact flushAll_commit_flushed h hn

theorem flushAllAndCommit_inv {c : Coll} {l : Loaded} (h : Inv' c l) (hn : PendNodup c) :
    Inv' (c.flushAllAndCommit).1 l ∧ (c.flushAllAndCommit).1.view = c.view ∧ PendNodup (c.flushAllAndCommit).1 := by
  rw [flushAllAndCommit_eq h hn]
  exact flushAll_commit_inv h hn

theorem close_writes_accepted {c : Coll} {l : Loaded} (h : Inv' c l) (hn : PendNodup c) (u : Nat) (o : Obj)
    (hp : c.pending.get? u = some o) : (c.close).1.disk.files.get? u = some o :=
  (close_flushed h hn).of_pending hp

/-! ### the background flusher -/

theorem Inv'.setSlept {c : Coll} {l : Loaded} (h : Inv' c l) (s : Nat) :
    Inv' (c.setMem { l with slept := s }) { l with slept := s } :=
  { h with mem := rfl }

theorem tick_cases {c : Coll} {l : Loaded} (hm : c.mem = some l) :
    (∃ s, c.tick = c.setMem { l with slept := s } ∧
      ∀ a, l.flusher = true → l.settings.async = some a →
        ¬ (c.pending.length ≥ a.threshold ∨ l.slept ≥ a.timeout) ∧ s = l.slept + 1) ∨
    (∃ a, l.settings.async = some a ∧ (c.pending.length ≥ a.threshold ∨ l.slept ≥ a.timeout) ∧
      c.tick = (c.flushAll.commit l).setMem { l with slept := 0 }) := by
  have hc : c = c.setMem l := by
    cases c
    cases hm
    rfl
  -- flusher not started; synchronous; a bound reached; neither reached; no schema cached
  fun_cases Coll.tick c
  · next l' hl hf =>
    cases hm.symm.trans hl
    exact Or.inl ⟨l.slept, hc, fun _ h => by rw [h] at hf; cases hf⟩
  · next l' hl _ ha =>
    cases hm.symm.trans hl
    exact Or.inl ⟨0, rfl, fun _ _ h => nomatch ha.symm.trans h⟩
  · next l' hl _ a ha hd _ =>
    cases hm.symm.trans hl
    rw [Bool.or_eq_true, decide_eq_true_eq, decide_eq_true_eq] at hd
    exact Or.inr ⟨a, ha, hd, rfl⟩
  · next l' hl _ a ha hd =>
    cases hm.symm.trans hl
    rw [Bool.or_eq_true, decide_eq_true_eq, decide_eq_true_eq] at hd
    exact Or.inl ⟨l.slept + 1, rfl, fun a' _ ha' => by cases ha.symm.trans ha'; exact ⟨hd, rfl⟩⟩
  · next hn => cases hm.symm.trans hn

theorem tick_spec {c : Coll} {l : Loaded} (h : Inv' c l) (hn : PendNodup c) :
    ∃ s, Inv' c.tick { l with slept := s } ∧ PendNodup c.tick ∧ c.tick.view = c.view ∧
      ∀ v, Flushed v l.img c → Flushed v l.img c.tick := by
  rcases tick_cases h.mem with ⟨s, ht, _⟩ | ⟨a, _, _, ht⟩
  · rw [ht]
    exact ⟨s, h.setSlept s, hn, rfl, fun v hF => hF.congr rfl rfl⟩
  · rw [ht]
    obtain ⟨hi, hv, _⟩ := flushAll_commit_inv h hn
    refine ⟨0, hi.setSlept 0, PendNodup.of_nil (commit_pending c.flushAll l), hv, fun v hF => ?_⟩
    have hcv : c.view = v := funext fun u => by rw [view_nopend hF.pending, hF.files]
    rw [← hcv]
    exact (flushAll_commit_flushed h hn).congr rfl rfl

theorem tick_inv {c : Coll} {l : Loaded} (h : Inv' c l) (hn : PendNodup c) :
    ∃ l', Inv' c.tick l' ∧ c.tick.view = c.view ∧ l'.settings = l.settings := by
  obtain ⟨s, h1, _, h3, _⟩ := tick_spec h hn
  exact ⟨_, h1, h3, rfl⟩

theorem PendNodup.tick {c : Coll} {l : Loaded} (hn : PendNodup c) (h : Inv' c l) : PendNodup c.tick :=
  let ⟨_, _, h2, _⟩ := tick_spec h hn
  h2

theorem tick_due {c : Coll} {l : Loaded} {a : Async} (h : Inv' c l) (hn : PendNodup c)
    (ha : l.settings.async = some a) (hd : c.pending.length ≥ a.threshold ∨ l.slept ≥ a.timeout) :
    Flushed c.view l.img c.tick := by
  rcases tick_cases h.mem with ⟨s, _, hs⟩ | ⟨_, _, _, ht⟩
  · exact absurd hd (hs a (h.flusher (Option.isSome_of_eq_some ha)) ha).1
  · rw [ht]
    exact (flushAll_commit_flushed h hn).congr rfl rfl

/-- `n` consecutive polls of the flusher, nothing else happening in between -/
def ticks : Nat → Coll → Coll
  | 0, c => c
  | n+1, c => ticks n c.tick

theorem ticks_spec (n : Nat) {c : Coll} {l : Loaded} (h : Inv' c l) (hn : PendNodup c) :
    ∃ s, Inv' (ticks n c) { l with slept := s } ∧ PendNodup (ticks n c) ∧ (ticks n c).view = c.view ∧
      ∀ v, Flushed v l.img c → Flushed v l.img (ticks n c) := by
  induction n generalizing c l with
  | zero => exact ⟨l.slept, h, hn, rfl, fun _ hF => hF⟩
  | succ n ih =>
    obtain ⟨s, h1, h2, h3, h4⟩ := tick_spec h hn
    obtain ⟨s', i1, i2, i3, i4⟩ := ih h1 h2
    exact ⟨s', i1, i2, i3.trans h3, fun v hF => i4 v (h4 v hF)⟩

theorem ticks_flushed {a : Async} (n : Nat) {c : Coll} {l : Loaded} (h : Inv' c l) (hn : PendNodup c)
    (ha : l.settings.async = some a) (hto : a.timeout ≤ l.slept + n) :
    Flushed c.view l.img (ticks (n + 1) c) := by
  induction n generalizing c l with
  | zero => exact tick_due h hn ha (Or.inr hto)
  | succ n ih =>
    show Flushed c.view l.img (ticks (n + 1) c.tick)
    rcases tick_cases h.mem with ⟨s, ht, hs⟩ | ⟨a', ha', hd, _⟩
    · -- not due yet: the counter went up by one
      obtain ⟨_, rfl⟩ := hs a (h.flusher (Option.isSome_of_eq_some ha)) ha
      rw [ht]
      exact ih (h.setSlept (l.slept + 1)) hn ha (Nat.add_right_comm .. ▸ hto)
    · -- due now: flushed by this poll, and it stays so
      have hF : Flushed c.view l.img c.tick := tick_due h hn ha' hd
      obtain ⟨s, h1, hn1, _, _⟩ := tick_spec h hn
      obtain ⟨_, _, _, _, hk⟩ := ticks_spec (n + 1) h1 hn1
      exact hk _ hF

theorem ticks_timeout {c : Coll} {l : Loaded} {a : Async} (h : Inv' c l) (hn : PendNodup c)
    (ha : l.settings.async = some a) :
    (ticks (a.timeout + 1) c).pending = [] ∧
    (∀ u o, c.pending.get? u = some o → (ticks (a.timeout + 1) c).disk.files.get? u = some o) ∧
    (ticks (a.timeout + 1) c).disk.schema = some l.img ∧
    (∀ u, (ticks (a.timeout + 1) c).disk.files.get? u = c.view u) :=
  have hF := ticks_flushed a.timeout h hn ha (Nat.le_add_left _ _)
  ⟨hF.pending, fun _ _ => hF.of_pending, hF.schema, hF.files⟩

theorem ticks_timeout_ge {c : Coll} {l : Loaded} {a : Async} (h : Inv' c l) (hn : PendNodup c)
    (ha : l.settings.async = some a) (n : Nat) (hge : n + l.slept ≥ a.timeout + 1) (hpos : n ≥ 1) :
    Flushed c.view l.img (ticks n c) := by
  cases n with
  | zero => cases hpos
  | succ m =>
    rw [Nat.add_right_comm, Nat.add_comm m] at hge
    exact ticks_flushed m h hn ha (Nat.le_of_succ_le_succ hge)

theorem flusher_started_mem {c : Coll} {l : Loaded} (hs : (c.schema).2 = .ok l) : (c.schema).1.mem = some l :=
  schema_ok_mem (Prod.ext rfl hs)

/-! ### visibility -/

theorem async_visible {E : Env} {c : Coll} {l : Loaded} (h : Inv' c l) (o : Obj) (fresh : Nat)
    (ht : (storedObj E l o fresh).Typed l.index) (hr : (c.insert E o fresh).2 = Res.ok ()) :
    ((c.insert E o fresh).1.get (storedObj E l o fresh).uuid).2 = Res.ok (storedObj E l o fresh) ∧
    ((c.insert E o fresh).1.exist (storedObj E l o fresh).uuid).2 = Res.ok true := by
  obtain ⟨l', h1, _⟩ := insert_accepted' h o fresh ht hr
  have hv := insert_accepted_view h o fresh ht hr
  constructor
  · rw [(get_spec' h1 _).1, hv]
  · rw [exist_spec h1.toInv _, hv]
    rfl

theorem async_insert_no_write {E : Env} {c : Coll} {l : Loaded} (h : Inv' c l) (o : Obj) (fresh : Nat)
    (ht : (storedObj E l o fresh).Typed l.index)
    (ha : l.settings.async.isSome = true) :
    (c.insert E o fresh).1.disk = c.disk ∧ (c.insert E o fresh).1.log = c.log := by
  rcases insert_outcome h.toInv o fresh ht with ⟨_, hi⟩ | ⟨_, _, _, _, _, hi⟩ <;> rw [hi]
  · exact ⟨rfl, rfl⟩
  · exact insState_async ha ..

theorem async_insert_pending {E : Env} {c : Coll} {l : Loaded} (h : Inv' c l) (o : Obj) (fresh : Nat)
    (ht : (storedObj E l o fresh).Typed l.index)
    (ha : l.settings.async.isSome = true) (hr : (c.insert E o fresh).2 = Res.ok ()) :
    (c.insert E o fresh).1.pending.get? (storedObj E l o fresh).uuid = some (storedObj E l o fresh) := by
  obtain ⟨_, _, hi, _⟩ := insert_accepted_eq h o fresh ht hr
  rw [hi]
  simp only [insState_pending, ha, if_true]
  exact OMap.get?_put_self _ _

/-! ### deleted while pending -/

theorem delete_pending_gone {c : Coll} {l : Loaded} (h : Inv' c l) (u : Nat) :
    (c.delete u).1.pending.get? u = none ∧ (c.delete u).1.disk.files.get? u = none := by
  obtain ⟨l', _, _, hv⟩ := delete_spec' h u
  apply files_none_of_view_none
  rw [hv, updView_apply, if_pos rfl]

/-! #### the same over the log of directory operations: a flush writes the pending objects and nothing else -/

theorem flushAll_log {c : Coll} (hk : c.pending.Keyed) (hn : PendNodup c) :
    ∃ ops, c.flushAll.log = c.log ++ ops ∧ ∀ o, FsOp.writeObj o ∈ ops ↔ c.pending.get? o.uuid = some o := by
  obtain ⟨d, ops, h, _, _, hl⟩ := flushAll_spec c
  refine ⟨ops, by rw [h], fun o => ?_⟩
  have : FsOp.writeObj o ∈ ops ↔ FsOp.writeObj o ∈ ops.filter (· != FsOp.mkdir) := by
    rw [List.mem_filter]
    exact (and_iff_left rfl).symm
  rw [this, hl, List.mem_map]
  constructor
  · rintro ⟨p, hp, e⟩
    injection e with e
    have hg := OMap.get?_of_mem hn hp
    rwa [← hk p hp, e] at hg
  · exact fun hg => ⟨(o.uuid, o), OMap.mem_of_get? hg, rfl⟩

theorem flushAll_commit_log {c : Coll} (hk : c.pending.Keyed) (hn : PendNodup c) (l : Loaded) :
    ∃ ops, (c.flushAll.commit l).log = c.log ++ ops ∧
      (∀ o, FsOp.writeObj o ∈ ops ↔ c.pending.get? o.uuid = some o) := by
  obtain ⟨ops1, h1, h2⟩ := flushAll_log hk hn
  obtain ⟨ops2, h3, h4⟩ := commit_log c.flushAll l
  refine ⟨ops1 ++ ops2, by rw [h3, h1, List.append_assoc], fun o => ?_⟩
  rw [List.mem_append, ← h2 o]
  exact ⟨fun hx => hx.resolve_right (h4 o), Or.inl⟩

theorem writes_of_log {c c' : Coll} {ops : List FsOp} {P : Obj → Prop} (hl : c'.log = c.log ++ ops)
    (hw : ∀ o, FsOp.writeObj o ∈ ops → P o) : ∀ op ∈ c'.log.drop c.log.length, ∀ o, op = FsOp.writeObj o → P o := by
  rw [hl, List.drop_left]
  intro op hop o e
  exact hw o (e ▸ hop)

theorem flush_writes_only_pending {c : Coll} (hk : c.pending.Keyed) (hn : PendNodup c) :
    ∀ op ∈ c.flushAll.log.drop c.log.length, ∀ o, op = FsOp.writeObj o → c.pending.get? o.uuid = some o :=
  let ⟨_, h1, h2⟩ := flushAll_log hk hn
  writes_of_log h1 fun o => (h2 o).mp

theorem tick_writes_only_pending {c : Coll} {l : Loaded} (h : Inv' c l) (hn : PendNodup c) :
    ∀ op ∈ c.tick.log.drop c.log.length, ∀ o, op = FsOp.writeObj o → c.pending.get? o.uuid = some o := by
  rcases tick_cases h.mem with ⟨s, ht, _⟩ | ⟨a, _, _, ht⟩
  · rw [ht]
    exact writes_of_log (ops := []) (List.append_nil _).symm fun _ ho => nomatch ho
  · obtain ⟨ops, h1, h2⟩ := flushAll_commit_log h.keyedP hn l
    rw [ht]
    exact writes_of_log h1 fun o => (h2 o).mp

theorem close_writes_only_pending {c : Coll} {l : Loaded} (h : Inv' c l) (hn : PendNodup c) :
    ∀ op ∈ (c.close).1.log.drop c.log.length, ∀ o, op = FsOp.writeObj o → c.pending.get? o.uuid = some o := by
  obtain ⟨ops, h1, h2⟩ := flushAll_commit_log h.keyedP hn l
  rw [close_eq h.mem]
  exact writes_of_log h1 fun o => (h2 o).mp

theorem delete_then_flush_no_write {c : Coll} {l : Loaded} (h : Inv' c l) (hn : PendNodup c) (u : Nat) :
    ∀ o, o.uuid = u →
      FsOp.writeObj o ∉ (c.delete u).1.flushAll.log.drop (c.delete u).1.log.length ∧
      FsOp.writeObj o ∉ (c.delete u).1.tick.log.drop (c.delete u).1.log.length ∧
      FsOp.writeObj o ∉ ((c.delete u).1.close).1.log.drop (c.delete u).1.log.length := by
  intro o hou
  obtain ⟨l', _, h1, _⟩ := delete_spec' h u
  have hn1 : PendNodup (c.delete u).1 := hn.delete u
  have hg : ¬ (c.delete u).1.pending.get? o.uuid = some o := by
    rw [hou, (delete_pending_gone h u).1]
    exact fun e => nomatch e
  exact ⟨fun hm => hg (flush_writes_only_pending h1.keyedP hn1 _ hm o rfl),
    fun hm => hg (tick_writes_only_pending h1 hn1 _ hm o rfl),
    fun hm => hg (close_writes_only_pending h1 hn1 _ hm o rfl)⟩

/-! ### why `Inv'` alone is not enough for the flush

  Asynchronous collection whose pending store holds two entries under uuid 5 (`o5` first, then
  `o5'`).  `Inv'` holds: every clause of it reads the pending store through `get?`, which sees the
  first entry only.  The flush writes both in order, so the file ends up holding `o5'`: the abstract
  content changes (5 ↦ `o5` before, 5 ↦ `o5'` after) and the pending value `o5` is not on disk.
  No sequence of calls builds such a store (`put` erases the uuid first): `PendNodup` excludes it. -/

theorem Inv'.of_pending_get? {c : Coll} {l : Loaded} (h : Inv' c l) {ps : OMap} (ha : l.settings.async ≠ none)
    (hg : ∀ u, ps.get? u = c.pending.get? u) (hk : ps.Keyed) : Inv' { c with pending := ps } l := by
  have hv : ({ c with pending := ps } : Coll).view = c.view := funext fun u => by
    show (match ps.get? u with | some o => some o | none => c.disk.files.get? u) = _
    rw [hg u]
    rfl
  exact { h with
    refl := hv ▸ h.refl
    dom := hv ▸ h.dom
    typed := hv ▸ h.typed
    cacheOk := hv ▸ h.cacheOk
    pendCached := fun u o hp => h.pendCached u o (hg u ▸ hp)
    syncNoPend := fun hn => absurd hn ha
    keyedP := hk }

namespace AsyncCounter
open Counter

def l1 : Loaded :=
  { descs := [], settings := { async := some { threshold := 10, timeout := 10 } },
    index := { next := 1, ids := [(0, 5)], fields := [] }, flusher := true }
def c1 : Coll := { live := [], mem := some l1, cache := [(5, o5)], pending := [(5, o5), (5, o5')] }

/-- the store `c1` would be without its second entry under uuid 5: the empty collection after
    `o5` was accepted -/
theorem inv1' : Inv' { c1 with pending := [(5, o5)] } l1 := by
  let l0 : Loaded := { l1 with index := ObjIndex.new [] }
  have h0 : Inv' { live := [], mem := some l0 } l0 := inv_empty rfl rfl rfl rfl rfl fun _ => rfl
  obtain ⟨_, _, he, hi, _⟩ := insertCore_accept_eq (E := E0) (o := o5) false h0 (fun _ h => nomatch h) rfl rfl
  cases he
  exact hi

theorem inv1 : Inv' c1 l1 :=
  inv1'.of_pending_get? (ps := c1.pending) (fun h => nomatch h)
    (fun u => by
      show OMap.get? [(5, o5), (5, o5')] u = OMap.get? [(5, o5)] u
      rw [OMap.get?_cons, OMap.get?_cons, OMap.get?_cons, OMap.get?_nil]
      split <;> rfl)
    (fun p hp => by
      rcases List.mem_cons.mp hp with rfl | hp
      · rfl
      · cases List.mem_singleton.mp hp
        rfl)

theorem flushAll_files5 : c1.flushAll.disk.files.get? 5 = some o5' := rfl

theorem flushAll_view_ne : c1.flushAll.view ≠ c1.view := by
  intro hv
  have h : c1.flushAll.view 5 = some o5' := (view_nopend rfl 5).trans flushAll_files5
  rw [hv] at h
  exact absurd h (by decide)

end AsyncCounter

open Counter AsyncCounter in
/-- `flushAll_view`, `flushAll_files` (hence `tick_due`, `close_flushed`, …) are false over
    `Inv'` alone: the hypothesis `PendNodup` cannot be dropped -/
theorem flushAll_view_counterexample :
    ∃ (c : Coll) (l : Loaded), Inv' c l ∧ ¬ PendNodup c ∧ c.flushAll.view ≠ c.view ∧
      (∃ u o, c.pending.get? u = some o ∧ c.flushAll.disk.files.get? u ≠ some o) ∧
      (∃ u o, c.pending.get? u = some o ∧ (c.close).1.disk.files.get? u ≠ some o) := by
  refine ⟨c1, l1, inv1, (by show ¬ ([5, 5] : List Nat).Nodup; decide), flushAll_view_ne, ⟨5, o5, rfl, ?_⟩,
    ⟨5, o5, rfl, ?_⟩⟩
  · rw [flushAll_files5]
    decide
  · rw [close_eq inv1.mem, commit_files, flushAll_files5]
    decide

/-! ### all interleavings

  The flusher body runs under the write lock: a run of the collection is a sequence of calls with
  polls of the flusher anywhere in between.  The invariant and `PendNodup` survive every run of the calls
  of `ACall` (the batch calls, `DeleteAll`, `DeleteObjects`, `Create` and `Repair` are not among them), so
  the theorems above (stated for *any* state satisfying them) hold at every point of such a run. -/

inductive ACall
  | insert (E : Env) (o : Obj) (fresh : Nat)
  | delete (u : Nat)
  | get (u : Nat)
  | exist (u : Nat)
  | flushAll
  | flushAllAndCommit
  | tick

def Coll.call (c : Coll) : ACall → Coll
  | .insert E o fresh => (c.insert E o fresh).1
  | .delete u => (c.delete u).1
  | .get u => (c.get u).1
  | .exist u => (c.exist u).1
  | .flushAll => c.flushAll
  | .flushAllAndCommit => (c.flushAllAndCommit).1
  | .tick => c.tick

/-- Go's type system: an inserted object has a value of the right kind for every indexed field -/
def ACall.ok (l : Loaded) : ACall → Prop
  | .insert E o fresh => (assignNew (E.canon l.descs (E.transform o)) fresh).Typed l.index
  | _ => True

theorem insert_inv_settings {E : Env} {c : Coll} {l : Loaded} (h : Inv' c l) (o : Obj) (fresh : Nat)
    (ht : (storedObj E l o fresh).Typed l.index) :
    ∃ l', Inv' (c.insert E o fresh).1 l' ∧ l'.settings = l.settings := by
  rcases insert_outcome h.toInv o fresh ht with ⟨_, hi⟩ | ⟨_, _, _, _, hix, hi⟩
  · rw [hi]
    exact ⟨l, h, rfl⟩
  · rw [hi]
    exact ⟨_, (insState_inv' h ht hix true).1, rfl⟩

theorem delete_inv_settings {c : Coll} {l : Loaded} (h : Inv' c l) (u : Nat) :
    ∃ l', Inv' (c.delete u).1 l' ∧ l'.settings = l.settings := by
  rw [delete_eq h.toInv u]
  exact ⟨_, (delState_inv' h u).1, rfl⟩

theorem call_inv {c : Coll} {l : Loaded} (h : Inv' c l) (hn : PendNodup c) (k : ACall) (hk : k.ok l) :
    ∃ l', Inv' (c.call k) l' ∧ PendNodup (c.call k) ∧ l'.settings = l.settings := by
  cases k with
  | insert E o fresh =>
    obtain ⟨l', h1, h2⟩ := insert_inv_settings h o fresh hk
    exact ⟨l', h1, hn.insert E o fresh, h2⟩
  | delete u =>
    obtain ⟨l', h1, h2⟩ := delete_inv_settings h u
    exact ⟨l', h1, hn.delete u, h2⟩
  | get u => exact ⟨l, (get_spec' h u).2.1, hn.get u, rfl⟩
  | exist u =>
    show ∃ l', Inv' (c.exist u).1 l' ∧ PendNodup (c.exist u).1 ∧ _
    rw [exist_spec h.toInv u]
    exact ⟨l, h, hn, rfl⟩
  | flushAll => exact ⟨l, flushAll_inv h hn, PendNodup.of_nil rfl, rfl⟩
  | flushAllAndCommit =>
    exact ⟨l, (flushAllAndCommit_inv h hn).1, (flushAllAndCommit_inv h hn).2.2, rfl⟩
  | tick =>
    obtain ⟨s, h1, h2, _⟩ := tick_spec h hn
    exact ⟨_, h1, h2, rfl⟩

inductive Reach (c0 : Coll) : Coll → Prop
  | refl : Reach c0 c0
  | step {c : Coll} {l : Loaded} (k : ACall) : Reach c0 c → c.mem = some l → k.ok l → Reach c0 (c.call k)

theorem reach_insert {E : Env} {c0 c c' : Coll} {l : Loaded} {o : Obj} {fresh : Nat} {r : Res Unit}
    (h : Reach c0 c) (hm : c.mem = some l) (ht : (storedObj E l o fresh).Typed l.index)
    (he : Coll.insert E c o fresh = (c', r)) : Reach c0 c' := by
  have := Reach.step (.insert E o fresh) h hm ht
  simp only [Coll.call, he] at this
  exact this

theorem reach_inv {c0 c : Coll} {l0 : Loaded} (h0 : Inv' c0 l0) (hn0 : PendNodup c0) (hr : Reach c0 c) :
    ∃ l, Inv' c l ∧ PendNodup c ∧ l.settings = l0.settings := by
  induction hr with
  | refl => exact ⟨l0, h0, hn0, rfl⟩
  | step k _ hm hk ih =>
    obtain ⟨l1, h1, hn1, hs1⟩ := ih
    have : l1 = _ := Option.some.inj (h1.mem.symm.trans hm)
    subst this
    obtain ⟨l2, h2, hn2, hs2⟩ := call_inv h1 hn1 k hk
    exact ⟨l2, h2, hn2, hs2.trans hs1⟩

end Sod
