/-
  Clone.lean — C14 "stored values are isolated from caller memory".

  `clone` (mirror of `cloneValue`) returns a value that is equal to the original up to identities
  and whose references reachable through exported fields are, in order, the consecutive tags from
  the allocation counter on (`clone_tagsExp`): hence newly allocated and pairwise distinct.  A write
  through a reference a value does not hold leaves it unchanged.  Hence, for objects without
  references in unexported fields (`UnexpFree`), caller writes after `put` do not reach the stored
  copy, writes through a value returned by `get` do not reach the store, and two `get`s share
  nothing.  The restriction is necessary: `put_not_isolated_unexported`.
-/
import SodModel.Clone
namespace Sod.Clone

/-! ## 1. `clone` in projection form

Each equation holds by unfolding; the inductions below rely on the same unfoldings silently. -/

theorem clone_prim (n : Nat) (x : Int) : clone n (.prim x) = (.prim x, n) := rfl
theorem clone_nil (n : Nat) : clone n .nil = (.nil, n) := rfl
theorem clone_ptr (n t : Nat) (v : V) :
    clone n (.ptr t v) = (.ptr n (clone (n + 1) v).1, (clone (n + 1) v).2) := rfl
theorem clone_slice (n t : Nat) (vs : List V) :
    clone n (.slice t vs) = (.slice n (cloneList (n + 1) vs).1, (cloneList (n + 1) vs).2) := rfl
theorem clone_map (n t : Nat) (kvs : List (Int × V)) :
    clone n (.map t kvs) = (.map n (cloneKVs (n + 1) kvs).1, (cloneKVs (n + 1) kvs).2) := rfl
theorem clone_struct (n : Nat) (fs : List (Bool × V)) :
    clone n (.struct fs) = (.struct (cloneFields n fs).1, (cloneFields n fs).2) := rfl
theorem clone_arr (n : Nat) (vs : List V) :
    clone n (.arr vs) = (.arr (cloneList n vs).1, (cloneList n vs).2) := rfl
theorem cloneList_nil (n : Nat) : cloneList n [] = ([], n) := rfl
theorem cloneList_cons (n : Nat) (v : V) (vs : List V) :
    cloneList n (v :: vs) =
      ((clone n v).1 :: (cloneList (clone n v).2 vs).1, (cloneList (clone n v).2 vs).2) := rfl
theorem cloneKVs_nil (n : Nat) : cloneKVs n [] = ([], n) := rfl
theorem cloneKVs_cons (n : Nat) (k : Int) (v : V) (kvs : List (Int × V)) :
    cloneKVs n ((k, v) :: kvs) =
      ((k, (clone n v).1) :: (cloneKVs (clone n v).2 kvs).1, (cloneKVs (clone n v).2 kvs).2) := rfl
theorem cloneFields_nil (n : Nat) : cloneFields n [] = ([], n) := rfl
theorem cloneFields_true (n : Nat) (v : V) (fs : List (Bool × V)) :
    cloneFields n ((true, v) :: fs) =
      ((true, (clone n v).1) :: (cloneFields (clone n v).2 fs).1, (cloneFields (clone n v).2 fs).2) := rfl
theorem cloneFields_false (n : Nat) (v : V) (fs : List (Bool × V)) :
    cloneFields n ((false, v) :: fs) = ((false, v) :: (cloneFields n fs).1, (cloneFields n fs).2) := rfl

/-! ## 2. the copy equals the original up to identities -/

mutual
theorem clone_strip (n : Nat) : (v : V) → strip (clone n v).1 = strip v
  | .prim _ | .nil => rfl
  | .ptr _ v => congrArg (V.ptr 0) (clone_strip (n + 1) v)
  | .slice _ vs => congrArg (V.slice 0) (cloneList_strip (n + 1) vs)
  | .map _ kvs => congrArg (V.map 0) (cloneKVs_strip (n + 1) kvs)
  | .struct fs => congrArg V.struct (cloneFields_strip n fs)
  | .arr vs => congrArg V.arr (cloneList_strip n vs)
theorem cloneList_strip (n : Nat) : (vs : List V) → stripList (cloneList n vs).1 = stripList vs
  | [] => rfl
  | v :: vs => List.cons_eq_cons.2 ⟨clone_strip n v, cloneList_strip _ vs⟩
theorem cloneKVs_strip (n : Nat) : (kvs : List (Int × V)) → stripKVs (cloneKVs n kvs).1 = stripKVs kvs
  | [] => rfl
  | (k, v) :: kvs => List.cons_eq_cons.2 ⟨congrArg (Prod.mk k) (clone_strip n v), cloneKVs_strip _ kvs⟩
theorem cloneFields_strip (n : Nat) :
    (fs : List (Bool × V)) → stripFields (cloneFields n fs).1 = stripFields fs
  | [] => rfl
  | (true, v) :: fs => List.cons_eq_cons.2 ⟨congrArg (Prod.mk true) (clone_strip n v), cloneFields_strip _ fs⟩
  | (false, v) :: fs => congrArg (List.cons (false, strip v)) (cloneFields_strip n fs)
end

/-! ## 3. the copy's exported references are the consecutive tags from `n` on -/

private theorem alloc {c o : List Nat} {n m t : Nat}
    (h : c = List.range' (n + 1) o.length ∧ m = n + 1 + o.length) :
    n :: c = List.range' n (t :: o).length ∧ m = n + (t :: o).length := by
  rw [h.1, h.2, List.length_cons, List.range'_succ, Nat.add_right_comm]
  exact ⟨rfl, rfl⟩

private theorem consec {c₁ c₂ o₁ o₂ : List Nat} {n m p : Nat}
    (h₁ : c₁ = List.range' n o₁.length ∧ m = n + o₁.length)
    (h₂ : c₂ = List.range' m o₂.length ∧ p = m + o₂.length) :
    c₁ ++ c₂ = List.range' n (o₁ ++ o₂).length ∧ p = n + (o₁ ++ o₂).length := by
  rw [h₁.1, h₂.1, h₂.2, h₁.2, List.length_append, List.range'_append_1, Nat.add_assoc]
  exact ⟨rfl, rfl⟩

mutual
theorem clone_tagsExp (n : Nat) : (v : V) →
    tagsExp (clone n v).1 = List.range' n (tagsExp v).length ∧ (clone n v).2 = n + (tagsExp v).length
  | .prim _ | .nil => ⟨rfl, rfl⟩
  | .ptr _ v => alloc (clone_tagsExp (n + 1) v)
  | .slice _ vs => alloc (cloneList_tagsExp (n + 1) vs)
  | .map _ kvs => alloc (cloneKVs_tagsExp (n + 1) kvs)
  | .struct fs => cloneFields_tagsExp n fs
  | .arr vs => cloneList_tagsExp n vs
theorem cloneList_tagsExp (n : Nat) : (vs : List V) →
    tagsExpList (cloneList n vs).1 = List.range' n (tagsExpList vs).length ∧
      (cloneList n vs).2 = n + (tagsExpList vs).length
  | [] => ⟨rfl, rfl⟩
  | v :: vs => consec (clone_tagsExp n v) (cloneList_tagsExp _ vs)
theorem cloneKVs_tagsExp (n : Nat) : (kvs : List (Int × V)) →
    tagsExpKVs (cloneKVs n kvs).1 = List.range' n (tagsExpKVs kvs).length ∧
      (cloneKVs n kvs).2 = n + (tagsExpKVs kvs).length
  | [] => ⟨rfl, rfl⟩
  | (_, v) :: kvs => consec (clone_tagsExp n v) (cloneKVs_tagsExp _ kvs)
theorem cloneFields_tagsExp (n : Nat) : (fs : List (Bool × V)) →
    tagsExpFields (cloneFields n fs).1 = List.range' n (tagsExpFields fs).length ∧
      (cloneFields n fs).2 = n + (tagsExpFields fs).length
  | [] => ⟨rfl, rfl⟩
  | (true, v) :: fs => consec (clone_tagsExp n v) (cloneFields_tagsExp _ fs)
  | (false, _) :: fs => cloneFields_tagsExp n fs
end

theorem clone_next_ge (n : Nat) (v : V) : n ≤ (clone n v).2 :=
  Nat.le.intro (clone_tagsExp n v).2.symm

theorem clone_tags_fresh (n : Nat) (v : V) : ∀ t ∈ tagsExp (clone n v).1, n ≤ t ∧ t < (clone n v).2 := by
  rw [(clone_tagsExp n v).1, (clone_tagsExp n v).2]
  exact fun t => List.mem_range'_1.mp

theorem clone_tags_nodup (n : Nat) (v : V) : (tagsExp (clone n v).1).Nodup :=
  (clone_tagsExp n v).1 ▸ List.nodup_range' 1
theorem cloneList_tags_nodup (n : Nat) : (vs : List V) → (tagsExpList (cloneList n vs).1).Nodup :=
  fun vs => (cloneList_tagsExp n vs).1 ▸ List.nodup_range' 1
theorem cloneKVs_tags_nodup (n : Nat) : (kvs : List (Int × V)) → (tagsExpKVs (cloneKVs n kvs).1).Nodup :=
  fun kvs => (cloneKVs_tagsExp n kvs).1 ▸ List.nodup_range' 1
theorem cloneFields_tags_nodup (n : Nat) :
    (fs : List (Bool × V)) → (tagsExpFields (cloneFields n fs).1).Nodup :=
  fun fs => (cloneFields_tagsExp n fs).1 ▸ List.nodup_range' 1

/-! ## 4. a write through a reference the value does not hold leaves it unchanged -/

mutual
theorem mutate_of_not_mem (t : Nat) (w : V) : (v : V) → t ∉ tagsAll v → mutate t w v = v
  | .prim _, _ | .nil, _ => rfl
  | .ptr t' v, h =>
    (if_neg (List.ne_of_not_mem_cons h).symm).trans <|
      congrArg (V.ptr t') (mutate_of_not_mem t w v (List.not_mem_of_not_mem_cons h))
  | .slice t' vs, h =>
    (if_neg (List.ne_of_not_mem_cons h).symm).trans <|
      congrArg (V.slice t') (mutateList_of_not_mem t w vs (List.not_mem_of_not_mem_cons h))
  | .map t' kvs, h =>
    (if_neg (List.ne_of_not_mem_cons h).symm).trans <|
      congrArg (V.map t') (mutateKVs_of_not_mem t w kvs (List.not_mem_of_not_mem_cons h))
  | .struct fs, h => congrArg V.struct (mutateFields_of_not_mem t w fs h)
  | .arr vs, h => congrArg V.arr (mutateList_of_not_mem t w vs h)
theorem mutateList_of_not_mem (t : Nat) (w : V) :
    (vs : List V) → t ∉ tagsAllList vs → mutateList t w vs = vs
  | [], _ => rfl
  | v :: vs, h =>
    List.cons_eq_cons.2 ⟨mutate_of_not_mem t w v fun m => h (List.mem_append_left _ m),
      mutateList_of_not_mem t w vs fun m => h (List.mem_append_right _ m)⟩
theorem mutateKVs_of_not_mem (t : Nat) (w : V) :
    (kvs : List (Int × V)) → t ∉ tagsAllKVs kvs → mutateKVs t w kvs = kvs
  | [], _ => rfl
  | (k, v) :: kvs, h =>
    List.cons_eq_cons.2 ⟨congrArg (Prod.mk k) (mutate_of_not_mem t w v fun m => h (List.mem_append_left _ m)),
      mutateKVs_of_not_mem t w kvs fun m => h (List.mem_append_right _ m)⟩
theorem mutateFields_of_not_mem (t : Nat) (w : V) :
    (fs : List (Bool × V)) → t ∉ tagsAllFields fs → mutateFields t w fs = fs
  | [], _ => rfl
  | (e, v) :: fs, h =>
    List.cons_eq_cons.2 ⟨congrArg (Prod.mk e) (mutate_of_not_mem t w v fun m => h (List.mem_append_left _ m)),
      mutateFields_of_not_mem t w fs fun m => h (List.mem_append_right _ m)⟩
end

theorem mutate_of_not_mem_exp (t : Nat) (w v : V) (hu : tagsAll v = tagsExp v) (h : t ∉ tagsExp v) :
    mutate t w v = v :=
  mutate_of_not_mem t w v (hu ▸ h)

/-! ## 5. the copy of a value without references in unexported fields is such a value

`tagsExp` is a sub-enumeration of `tagsAll`, so the two are equal as soon as they have the same
length; and cloning keeps the number of references. -/

/-- no unexported field of `v` holds a reference -/
def UnexpFree (v : V) : Prop := tagsAll v = tagsExp v

mutual
theorem tagsExp_sublist : (v : V) → (tagsExp v).Sublist (tagsAll v)
  | .prim _ | .nil => .slnil
  | .ptr t v => (tagsExp_sublist v).cons_cons t
  | .slice t vs => (tagsExpList_sublist vs).cons_cons t
  | .map t kvs => (tagsExpKVs_sublist kvs).cons_cons t
  | .struct fs => tagsExpFields_sublist fs
  | .arr vs => tagsExpList_sublist vs
theorem tagsExpList_sublist : (vs : List V) → (tagsExpList vs).Sublist (tagsAllList vs)
  | [] => .slnil
  | v :: vs => (tagsExp_sublist v).append (tagsExpList_sublist vs)
theorem tagsExpKVs_sublist : (kvs : List (Int × V)) → (tagsExpKVs kvs).Sublist (tagsAllKVs kvs)
  | [] => .slnil
  | (_, v) :: kvs => (tagsExp_sublist v).append (tagsExpKVs_sublist kvs)
theorem tagsExpFields_sublist : (fs : List (Bool × V)) → (tagsExpFields fs).Sublist (tagsAllFields fs)
  | [] => .slnil
  | (true, v) :: fs => (tagsExp_sublist v).append (tagsExpFields_sublist fs)
  | (false, _) :: fs => List.sublist_append_of_sublist_right (tagsExpFields_sublist fs)
end

private theorem length_append_congr {a b a' b' : List Nat} (h₁ : a.length = a'.length)
    (h₂ : b.length = b'.length) : (a ++ b).length = (a' ++ b').length := by
  rw [List.length_append, List.length_append, h₁, h₂]

mutual
theorem clone_tagsAll_length (n : Nat) : (v : V) → (tagsAll (clone n v).1).length = (tagsAll v).length
  | .prim _ | .nil => rfl
  | .ptr _ v => congrArg (· + 1) (clone_tagsAll_length (n + 1) v)
  | .slice _ vs => congrArg (· + 1) (cloneList_tagsAll_length (n + 1) vs)
  | .map _ kvs => congrArg (· + 1) (cloneKVs_tagsAll_length (n + 1) kvs)
  | .struct fs => cloneFields_tagsAll_length n fs
  | .arr vs => cloneList_tagsAll_length n vs
theorem cloneList_tagsAll_length (n : Nat) :
    (vs : List V) → (tagsAllList (cloneList n vs).1).length = (tagsAllList vs).length
  | [] => rfl
  | v :: vs => length_append_congr (clone_tagsAll_length n v) (cloneList_tagsAll_length _ vs)
theorem cloneKVs_tagsAll_length (n : Nat) :
    (kvs : List (Int × V)) → (tagsAllKVs (cloneKVs n kvs).1).length = (tagsAllKVs kvs).length
  | [] => rfl
  | (_, v) :: kvs => length_append_congr (clone_tagsAll_length n v) (cloneKVs_tagsAll_length _ kvs)
theorem cloneFields_tagsAll_length (n : Nat) :
    (fs : List (Bool × V)) → (tagsAllFields (cloneFields n fs).1).length = (tagsAllFields fs).length
  | [] => rfl
  | (true, v) :: fs => length_append_congr (clone_tagsAll_length n v) (cloneFields_tagsAll_length _ fs)
  | (false, _) :: fs => length_append_congr rfl (cloneFields_tagsAll_length n fs)
end

private theorem eq_of_counts {ca ce oa oe : List Nat} {n : Nat} (hs : ce.Sublist ca)
    (ha : ca.length = oa.length) (he : ce = List.range' n oe.length) (h : oa = oe) : ca = ce :=
  (hs.eq_of_length (by rw [ha, h, he, List.length_range'])).symm

theorem clone_unexpFree (n : Nat) :
    (v : V) → tagsAll v = tagsExp v → tagsAll (clone n v).1 = tagsExp (clone n v).1 := fun v =>
  eq_of_counts (tagsExp_sublist _) (clone_tagsAll_length n v) (clone_tagsExp n v).1
theorem cloneList_unexpFree (n : Nat) :
    (vs : List V) → tagsAllList vs = tagsExpList vs →
      tagsAllList (cloneList n vs).1 = tagsExpList (cloneList n vs).1 := fun vs =>
  eq_of_counts (tagsExpList_sublist _) (cloneList_tagsAll_length n vs) (cloneList_tagsExp n vs).1
theorem cloneKVs_unexpFree (n : Nat) :
    (kvs : List (Int × V)) → tagsAllKVs kvs = tagsExpKVs kvs →
      tagsAllKVs (cloneKVs n kvs).1 = tagsExpKVs (cloneKVs n kvs).1 := fun kvs =>
  eq_of_counts (tagsExpKVs_sublist _) (cloneKVs_tagsAll_length n kvs) (cloneKVs_tagsExp n kvs).1
theorem cloneFields_unexpFree (n : Nat) :
    (fs : List (Bool × V)) → tagsAllFields fs = tagsExpFields fs →
      tagsAllFields (cloneFields n fs).1 = tagsExpFields (cloneFields n fs).1 := fun fs =>
  eq_of_counts (tagsExpFields_sublist _) (cloneFields_tagsAll_length n fs) (cloneFields_tagsExp n fs).1

theorem clone_tagsAll_fresh (n : Nat) (v : V) (hu : UnexpFree v) :
    ∀ t ∈ tagsAll (clone n v).1, n ≤ t ∧ t < (clone n v).2 := by
  rw [clone_unexpFree n v hu]
  exact clone_tags_fresh n v

/-! ## 6. the cache -/

def Store.Fresh (s : Store) : Prop := ∀ p ∈ s.objs, ∀ t ∈ tagsAll p.2, t < s.next

def Store.UnexpFree (s : Store) : Prop := ∀ p ∈ s.objs, tagsAll p.2 = tagsExp p.2

theorem Store.put_eq (s : Store) (key : Nat) (v : V) :
    s.put key v =
      { objs := s.objs.filter (fun p => p.1 != key) ++ [(key, (clone s.next v).1)],
        next := (clone s.next v).2 } := rfl

theorem Store.get_eq (s : Store) (key : Nat) :
    s.get key =
      match s.objs.find? (fun p => p.1 == key) with
      | some p => (some (clone s.next p.2).1, { s with next := (clone s.next p.2).2 })
      | none => (none, s) := by
  rw [Store.get]
  cases s.objs.find? (fun p => p.1 == key) <;> rfl

theorem Store.forall_put {P : Nat × V → Prop} {s : Store} {key : Nat} {v : V}
    (h₁ : ∀ p ∈ s.objs, P p) (h₂ : P (key, (clone s.next v).1)) : ∀ p ∈ (s.put key v).objs, P p := by
  intro p hp
  rcases List.mem_append.mp hp with hp | hp
  · exact h₁ p (List.mem_filter.mp hp).1
  · exact List.mem_singleton.mp hp ▸ h₂

theorem find_put (s : Store) (key : Nat) (v : V) :
    (s.put key v).objs.find? (fun p => p.1 == key) = some (key, (clone s.next v).1) := by
  have hn : (s.objs.filter (fun p => p.1 != key)).find? (fun p => p.1 == key) = none :=
    List.find?_eq_none.mpr fun x hx e => bne_iff_ne.mp (List.mem_filter.mp hx).2 (eq_of_beq e)
  rw [Store.put_eq, List.find?_append, hn, Option.none_or]
  exact List.find?_cons_of_pos (beq_self_eq_true key)

theorem find_mutate (s : Store) (t : Nat) (w : V) (key : Nat) :
    (s.mutate t w).objs.find? (fun p => p.1 == key) =
      (s.objs.find? (fun p => p.1 == key)).map (fun p => (p.1, mutate t w p.2)) :=
  List.find?_map ..

theorem Store.mutate_objs {s : Store} {t : Nat} (h : ∀ p ∈ s.objs, t ∉ tagsAll p.2) (w : V) :
    (s.mutate t w).objs = s.objs :=
  (List.map_congr_left fun p hp => congrArg (Prod.mk p.1) (mutate_of_not_mem t w p.2 (h p hp))).trans
    (List.map_id _)

theorem get_some (s : Store) (key : Nat) (v' : V) (s' : Store) (hg : s.get key = (some v', s')) :
    ∃ v, s.objs.find? (fun p => p.1 == key) = some (key, v) ∧ (key, v) ∈ s.objs ∧
      v' = (clone s.next v).1 ∧ s' = { s with next := (clone s.next v).2 } := by
  rw [Store.get_eq] at hg
  cases hf : s.objs.find? (fun p => p.1 == key) with
  | none =>
    rw [hf] at hg
    cases hg
  | some p =>
    rw [hf] at hg
    simp only [Prod.mk.injEq, Option.some.injEq] at hg
    have hk : p.1 = key := eq_of_beq (List.find?_some hf :)
    have hm := List.mem_of_find?_eq_some hf
    obtain ⟨k, v⟩ := p
    cases hk
    exact ⟨v, rfl, hm, hg.1.symm, hg.2.symm⟩

theorem not_mem_put_clone {s : Store} {v : V} (hu : UnexpFree v) {t : Nat} (ht : t < s.next) :
    t ∉ tagsAll (clone s.next v).1 :=
  fun hm => Nat.not_lt.mpr (clone_tagsAll_fresh s.next v hu t hm).1 ht

/-- a write through a reference that existed before `put` cannot change what is stored under
    the key; in particular caller writes through the references of `v` cannot -/
theorem put_isolated (s : Store) (key : Nat) (v : V) (hu : UnexpFree v) {t : Nat}
    (ht : t < s.next) (w : V) :
    ((s.put key v).mutate t w).objs.find? (fun p => p.1 == key) =
      (s.put key v).objs.find? (fun p => p.1 == key) := by
  rw [find_mutate, find_put, Option.map_some, mutate_of_not_mem t w _ (not_mem_put_clone hu ht)]

/-- the whole store: if moreover the caller's object is not itself built from store memory, no
    stored object at all changes -/
theorem put_isolated_all (s : Store) (key : Nat) (v : V) (hu : tagsAll v = tagsExp v)
    (hd : ∀ t ∈ tagsAll v, ∀ p ∈ s.objs, t ∉ tagsAll p.2) (hv : ∀ t ∈ tagsAll v, t < s.next) :
    ∀ t ∈ tagsAll v, ∀ w, ((s.put key v).mutate t w).objs = (s.put key v).objs :=
  fun t ht => Store.mutate_objs (Store.forall_put (hd t ht) (not_mem_put_clone hu (hv t ht)))

theorem put_fresh (s : Store) (hf : s.Fresh) (key : Nat) (v : V) (hu : UnexpFree v) :
    (s.put key v).Fresh :=
  Store.forall_put (fun p hp t ht => Nat.lt_of_lt_of_le (hf p hp t ht) (clone_next_ge s.next v))
    fun t ht => (clone_tagsAll_fresh s.next v hu t ht).2

theorem put_unexpFree (s : Store) (hs : s.UnexpFree) (key : Nat) (v : V) (hu : UnexpFree v) :
    (s.put key v).UnexpFree :=
  Store.forall_put hs (clone_unexpFree s.next v hu)

theorem get_tags (s : Store) (key : Nat) (v' : V) (s' : Store) (hg : s.get key = (some v', s'))
    (hu : s.UnexpFree) :
    s'.objs = s.objs ∧ s.next ≤ s'.next ∧ ∀ t ∈ tagsAll v', s.next ≤ t ∧ t < s'.next := by
  obtain ⟨v, _, hm, rfl, rfl⟩ := get_some s key v' s' hg
  exact ⟨rfl, clone_next_ge s.next v, clone_tagsAll_fresh s.next v (hu _ hm)⟩

theorem get_fresh (s : Store) (hf : s.Fresh) (key : Nat) (v' : V) (s' : Store)
    (hg : s.get key = (some v', s')) (hu : s.UnexpFree) : s'.Fresh := by
  obtain ⟨ho, hn, -⟩ := get_tags s key v' s' hg hu
  intro p hp t ht
  rw [ho] at hp
  exact Nat.lt_of_lt_of_le (hf p hp t ht) hn

/-- writes through a value handed out by `get` cannot change anything stored: its references were
    allocated by this `get`, those of the stored objects before it -/
theorem get_isolated (s : Store) (hf : s.Fresh) (key : Nat) (v' : V) (s' : Store)
    (hg : s.get key = (some v', s')) (hu : s.UnexpFree) :
    ∀ t ∈ tagsAll v', ∀ w, (s'.mutate t w).objs = s'.objs := by
  obtain ⟨ho, -, hr⟩ := get_tags s key v' s' hg hu
  refine fun t ht => Store.mutate_objs fun p hp hc => ?_
  rw [ho] at hp
  exact Nat.not_lt.mpr (hr t ht).1 (hf p hp t hc)

theorem two_gets_disjoint (s : Store) (key : Nat) (a b : V) (s1 s2 : Store)
    (hu : s.UnexpFree)
    (h1 : s.get key = (some a, s1)) (h2 : s1.get key = (some b, s2)) :
    ∀ t ∈ tagsAll a, t ∉ tagsAll b := by
  obtain ⟨ho, _, ha⟩ := get_tags s key a s1 h1 hu
  obtain ⟨_, _, hb⟩ := get_tags s1 key b s2 h2 fun p hp => hu p (ho ▸ hp)
  exact fun t hta htb => Nat.not_lt.mpr (hb t htb).1 (ha t hta).2

theorem get_value (s : Store) (key : Nat) (v' : V) (s' : Store) (hg : s.get key = (some v', s')) :
    ∃ v, s.objs.find? (fun p => p.1 == key) = some (key, v) ∧ strip v' = strip v := by
  obtain ⟨v, hf, _, rfl, rfl⟩ := get_some s key v' s' hg
  exact ⟨v, hf, clone_strip _ v⟩

theorem put_get_roundtrip (s : Store) (key : Nat) (v : V) :
    ((s.put key v).get key).1.map strip = some (strip v) := by
  rw [Store.get_eq, find_put]
  exact congrArg some ((clone_strip _ _).trans (clone_strip _ v))

/-! ## 7. the documented exception: unexported fields keep sharing -/

theorem unexported_shared : ∃ v t, t ∈ tagsAll (clone 100 v).1 ∧ t ∈ tagsAll v ∧ t < 100 :=
  ⟨.struct [(false, .ptr 7 (.prim 1))], 7, by decide⟩

/-- the restriction to `UnexpFree` in `put_isolated` is necessary: a caller write through a reference
    in an unexported field does change the stored object -/
theorem put_not_isolated_unexported :
    ∃ (s : Store) (key : Nat) (v : V) (t : Nat) (w : V),
      (∀ t ∈ tagsAll v, t < s.next) ∧ t ∈ tagsAll v ∧
      ((s.put key v).mutate t w).objs.find? (fun p => p.1 == key) ≠
        (s.put key v).objs.find? (fun p => p.1 == key) := by
  refine ⟨{ next := 100 }, 0, .struct [(false, .ptr 7 (.prim 1))], 7, .prim 2, by decide, by decide, ?_⟩
  rw [find_mutate, find_put]
  -- the stored copy still holds pointer 7, and the write went through it
  intro h
  cases h

end Sod.Clone
