/-
  ValOrder.lean — `Val.lt` is a strict total order; `eq`/`gt` in terms of it, and the comparisons
  of the searches (`≥`, `≤`, `=` against a key) in terms of `lt` and `gt`.
-/
import SodModel.Val
namespace Sod
namespace Val

theorem lt_irrefl (a : Val) : Val.lt a a = false := by
  cases a
  · exact decide_eq_false (Int.lt_irrefl _)
  · exact decide_eq_false (Nat.lt_irrefl _)
  · exact decide_eq_false (Int.lt_irrefl _)
  · exact decide_eq_false (List.lt_irrefl _)

/-! `Val.lt` is the lexicographic order on (rank of the tag, payload): between two kinds it compares the
ranks, so along `lt` the rank never falls, and a rank strictly below decides. -/

theorem lt_of_tag_ne {a b : Val} (h : a.tag ≠ b.tag) : Val.lt a b = decide (a.tag.ord < b.tag.ord) := by
  cases a <;> cases b <;> first | rfl | exact absurd rfl h

theorem lt_of_tag_lt {a b : Val} (h : a.tag.ord < b.tag.ord) : Val.lt a b = true := by
  rw [lt_of_tag_ne fun e => Nat.lt_irrefl _ (e ▸ h)]
  exact decide_eq_true h

theorem tag_le_of_lt {a b : Val} (h : Val.lt a b = true) : a.tag.ord ≤ b.tag.ord := by
  by_cases ht : a.tag = b.tag
  · exact ht ▸ Nat.le_refl _
  · rw [lt_of_tag_ne ht] at h
    exact Nat.le_of_lt (of_decide_eq_true h)

theorem lt_trans {a b c : Val} : Val.lt a b = true → Val.lt b c = true → Val.lt a c = true := by
  intro h₁ h₂
  have t₁ := tag_le_of_lt h₁
  have t₂ := tag_le_of_lt h₂
  by_cases h : a.tag.ord < c.tag.ord
  · exact lt_of_tag_lt h
  · -- the three ranks are equal: one kind, ordered by the payloads
    have e₁ : a.tag.ord = b.tag.ord := by omega
    have e₂ : b.tag.ord = c.tag.ord := by omega
    cases a <;> cases b <;> cases e₁ <;> cases c <;> cases e₂
    · exact decide_eq_true (Int.lt_trans (of_decide_eq_true h₁) (of_decide_eq_true h₂))
    · exact decide_eq_true (Nat.lt_trans (of_decide_eq_true h₁) (of_decide_eq_true h₂))
    · exact decide_eq_true (Int.lt_trans (of_decide_eq_true h₁) (of_decide_eq_true h₂))
    · exact decide_eq_true (List.lt_trans (of_decide_eq_true h₁) (of_decide_eq_true h₂))

theorem lt_total {a b : Val} : Val.lt a b = false → Val.lt b a = false → a = b := by
  intro h₁ h₂
  -- neither rank is below the other: one kind, and the order of the payloads is total
  have t₁ : ¬ a.tag.ord < b.tag.ord := fun h => Bool.false_ne_true (h₁.symm.trans (lt_of_tag_lt h))
  have t₂ : ¬ b.tag.ord < a.tag.ord := fun h => Bool.false_ne_true (h₂.symm.trans (lt_of_tag_lt h))
  have e : a.tag.ord = b.tag.ord := by omega
  cases a <;> cases b <;> cases e
  · exact congrArg _ (Int.le_antisymm (Int.not_lt.mp (of_decide_eq_false h₂)) (Int.not_lt.mp (of_decide_eq_false h₁)))
  · exact congrArg _ (Nat.le_antisymm (Nat.not_lt.mp (of_decide_eq_false h₂)) (Nat.not_lt.mp (of_decide_eq_false h₁)))
  · exact congrArg _ (Int.le_antisymm (Int.not_lt.mp (of_decide_eq_false h₂)) (Int.not_lt.mp (of_decide_eq_false h₁)))
  · exact congrArg _ (List.le_antisymm (of_decide_eq_false h₂) (of_decide_eq_false h₁))

theorem lt_asymm {a b : Val} (h : Val.lt a b = true) : Val.lt b a = false := by
  cases hba : Val.lt b a with
  | false => rfl
  | true => rw [← lt_irrefl a, ← lt_trans h hba]

theorem lt_ntrans {a b c : Val} (hab : Val.lt a b = false) (hbc : Val.lt b c = false) :
    Val.lt a c = false := by
  cases hac : Val.lt a c with
  | false => rfl
  | true =>
    cases hba : Val.lt b a with
    | false => rw [← hbc, ← lt_total hab hba, hac]
    | true => rw [← hbc, lt_trans hba hac]

theorem eq_iff {a b : Val} : Val.eq a b = true ↔ a = b := by
  simp only [Val.eq, beq_iff_eq]

theorem gt_iff {a b : Val} : Val.gt a b = true ↔ Val.lt b a = true := by
  constructor
  · intro h
    simp only [Val.gt, Bool.and_eq_true, Bool.not_eq_true', Val.eq, beq_eq_false_iff_ne] at h
    cases hba : Val.lt b a with
    | true => rfl
    | false => exact absurd (lt_total h.1 hba) h.2
  · intro h
    have hne : a ≠ b := fun e => by
      rw [e, lt_irrefl] at h
      cases h
    rw [Val.gt, lt_asymm h, Val.eq, beq_false_of_ne hne]
    rfl

end Val

theorem eq_imp_not_lt {a k : Val} (h : Val.eq a k = true) : Val.lt a k = false := by
  rw [Val.eq_iff] at h
  subst h
  exact Val.lt_irrefl _

theorem lt_imp_not_eq {a k : Val} (h : Val.lt a k = true) : Val.eq a k = false := by
  cases hx : Val.eq a k with
  | false => rfl
  | true =>
    rw [eq_imp_not_lt hx] at h
    cases h

theorem gt_imp_not_lt {a k : Val} (h : Val.gt a k = true) : (!Val.lt a k) = true :=
  (Bool.and_eq_true_iff.mp h).1

theorem ge_eq_not_lt (a k : Val) : (Val.gt a k || Val.eq a k) = !Val.lt a k := by
  cases hx : Val.eq a k with
  | true => rw [eq_imp_not_lt hx, Bool.or_true, Bool.not_false]
  | false => rw [Val.gt, hx, Bool.not_false, Bool.and_true, Bool.or_false]

theorem le_eq_not_gt (a k : Val) : (Val.lt a k || Val.eq a k) = !Val.gt a k := by
  unfold Val.gt
  cases Val.lt a k <;> cases Val.eq a k <;> rfl

theorem eq_eq_ge_not_gt (a k : Val) : Val.eq a k = (!Val.gt a k && !Val.lt a k) := by
  cases hx : Val.eq a k with
  | true =>
    rw [Val.gt, hx, eq_imp_not_lt hx]
    rfl
  | false =>
    rw [Val.gt, hx]
    cases Val.lt a k <;> rfl

end Sod
