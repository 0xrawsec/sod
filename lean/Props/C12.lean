/-
  C12 — Observable behaviour does not depend on storage configuration or indexing.
-/
import Proofs.Refine
import Proofs.SearchColl
namespace Sod.Props
open Sod

/-- configuration: two collections with any two `Settings` (cache, compression, asynchronous
    writes, extension) started empty answer every call list alike — the abstract specification
    they both refine has no configuration -/
theorem C12_config_independent {E : Env} (descs : List FieldDesc) (st₁ st₂ : Settings) (calls : List Call)
    (ht : CallsTyped E (emptyLoaded descs st₁) calls) :
    ObsListEq (Coll.run E (emptyColl descs st₁) calls).snd (Coll.run E (emptyColl descs st₂) calls).snd :=
  (Sod.C01_config_independent (sim_init descs st₁) (sim_init descs st₂) ht (fun k hk => (ht k hk).congr rfl rfl)).1

/-- indexing: for the same stored objects, a comparison on a field denotes the same SET of
    objects whether the field is indexed (bisection on the index) or not (scan of every
    object); an index changes speed and order only -/
theorem C12_index_independent {E : Env} {c₁ c₂ : Coll} {l₁ l₂ : Loaded} {field : String} {fi : FieldIdx} {op : Op}
    {probe : Leaf} {pv : Val} {pos : Nat} {d : FieldDesc}
    (h₁ : Inv' c₁ l₁) (h₂ : Inv' c₂ l₂) (hv : c₁.view = c₂.view)
    (hi : l₁.index.field? field = some fi) (hn : l₂.index.field? field = none)
    (r₁ : pathResolvable c₁.live field = true) (r₂ : pathResolvable c₂.live field = true)
    (p₁ : E.prepare l₁.descs field probe = Leaf.v pv) (p₂ : E.prepare l₂.descs field probe = Leaf.v pv)
    (ht : pv.tag = fi.cast) (hd : descPos? l₂.descs field = some (pos, d)) (hc : d.cast = some pv.tag)
    (hp : fi.pos = pos) (hop : op ≠ Op.re) (u : Nat) :
    Denotes l₁ (Coll.search E c₁ field (some op) probe none).snd.fields u ↔
      Denotes l₂ (Coll.search E c₂ field (some op) probe none).snd.fields u := by
  obtain ⟨_, _, hh⟩ := index_independent h₁ h₂ hv hi hn r₁ r₂ p₁ p₂ ht hd hc hp (scanMatcher_of_ne_re E hop pv)
  exact (hh u).1.trans (hh u).2.symm

/-- membership (Exist) agrees with the abstract content in every configuration, in particular
    for an object whose asynchronous write is still pending -/
theorem C12_exist {c : Coll} {l : Loaded} (h : Sod.Inv c l) (u : Nat) : c.exist u = (c, Res.ok (c.view u).isSome) :=
  exist_spec h u

end Sod.Props
