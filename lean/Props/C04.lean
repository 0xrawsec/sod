/-
  C04 — Close and reopen preserves objects, indexes and constraints exactly.

  `Synced c l`: schema.json is the image of the loaded schema, the directory exists and nothing is pending.
  `ShapeOk c l`: the Go struct still has the stored shape.  The numeric round trip of index
  values through schema.json (exact decimal text, `fix: reload index values exactly`) is part
  of the codec, tied by the `reopen` correspondence profile (values ≥ 2^53, nanosecond
  timestamps); in the model the image holds the values themselves.
-/
import Proofs.Reopen
import Proofs.Codec
namespace Sod.Props
open Sod

/-- synchronous mode: every completed accepted write has committed (so abandoning the handle
    after any completed call loses nothing) -/
theorem C04_sync_insert_commits {E : Env} {c : Coll} {l : Loaded} (h : Inv' c l) (hs : Synced c l)
    (ha : l.settings.async = none) (o : Obj) (fresh : Nat)
    (ht : Obj.Typed l.index (assignNew (E.canon l.descs (E.transform o)) fresh))
    (hr : (Coll.insert E c o fresh).snd = Res.ok ()) :
    ∃ l', Inv' (Coll.insert E c o fresh).fst l' ∧ Synced (Coll.insert E c o fresh).fst l' :=
  let ⟨_, _, s⟩ := insert_sync_spec h hs.dir ha o fresh ht hr
  ⟨_, s.inv, s.synced⟩

/-- … and a delete succeeds and has committed -/
theorem C04_sync_delete_commits {c : Coll} {l : Loaded} (h : Inv' c l) (hs : Synced c l) (u : Nat) :
    (c.delete u).snd = Res.ok () ∧ ∃ l', Inv' (c.delete u).fst l' ∧ Synced (c.delete u).fst l' :=
  let ⟨a, s⟩ := delete_sync_spec h hs.dir hs.pending u
  ⟨a, _, s.inv, s.synced⟩

set_option linter.unusedVariables false in
/-- a new handle on a synced directory loads without error, holds the same index (with the id
    counter recomputed above every id in use), the same settings and descriptors, satisfies the
    invariant again — so C01, C02, C03, C13 apply to it after this first access — and denotes the
    same objects (`ha` is not needed: `reopen_load`) -/
theorem C04_reopen {c : Coll} {l : Loaded} (h : Inv' c l) (hs : Synced c l) (hk : ShapeOk c l)
    (ha : l.settings.async = none) :
    ∃ l', c.reopen.schema = ({ c.reopen with mem := some l' }, Res.ok l') ∧ l'.index = l.index.reload ∧
      l'.settings = l.settings ∧ l'.descs = l.descs ∧ Inv' { c.reopen with mem := some l' } l' ∧
      ({ c.reopen with mem := some l' } : Coll).view = c.view :=
  let ⟨a, b, d⟩ := reopen_load h hs.schema hs.pending hk
  ⟨_, a, startFlusher_index _, startFlusher_settings _, startFlusher_descs _, b, d⟩

/-- any mode: Close leaves nothing pending and schema.json committed, and close + reopen +
    first access denotes the same objects -/
theorem C04_close_then_reopen {c : Coll} {l : Loaded} (h : Inv' c l) (hn : c.pending.keys.Nodup) (hk : ShapeOk c l) :
    (c.close.fst.pending = [] ∧ c.close.fst.disk.schema = some l.img ∧ c.close.snd = Res.ok ()) ∧
    ∃ l', Inv' { c.close.fst.reopen with mem := some l' } l' ∧
      ({ c.close.fst.reopen with mem := some l' } : Coll).view = c.view := by
  obtain ⟨hs, hl, hr⟩ := close_synced h.mem
  obtain ⟨hi, hv, -⟩ := close_inv h hn
  obtain ⟨_, b, d⟩ := reopen_load hi hs.schema hs.pending (hk.congr rfl hl)
  exact ⟨⟨hs.pending, hs.schema, hr⟩, _, b, d.trans hv⟩

/-- after a restart ids are still never reused -/
theorem C04_ids_not_reused {ix : ObjIndex} (h : ix.WF) : ∀ p ∈ ix.reload.ids, p.fst < ix.reload.next :=
  (reload_wf h).ltNext

/-! ### the decimal reader of the schema codec (the oracle that decides, in the `reopen` and
    `simg` correspondence, whether the number text in schema.json denotes the indexed double) -/

/-- no number text is accepted for an infinity or a NaN key -/
theorem C04_decimal_nonfinite (d : Codec.Dec) (k : Int) (hk : k.natAbs / 2 ^ 52 ≥ 2047) :
    Codec.decIsKey d k = false :=
  Codec.decIsKey_nonfinite d k hk

/-- an accepted text has the sign of the key -/
theorem C04_decimal_sign (d : Codec.Dec) (k : Int) (h0 : k ≠ 0) (h : Codec.decIsKey d k = true) :
    d.neg = decide (k < 0) :=
  Codec.decIsKey_sign d k h0 h

/-- key 0 (both zeros) is denoted exactly by the texts with a zero mantissa -/
theorem C04_decimal_zero (d : Codec.Dec) : Codec.decIsKey d 0 = (d.mant == 0) :=
  Codec.decIsKey_zero d

set_option linter.unusedVariables false in  -- `hk`, `hk1` are not used
/-- the oracle is exact to the last bit: one text never denotes two adjacent order keys `k`, `k+1`
    — for every literal and every pair of finite keys (negative, ±0, subnormal, normal, across
    binade boundaries) — so an index value reloaded one ulp off (the defect repaired by
    `fix: reload index values exactly`) cannot pass the comparison.  The upper rounding boundary
    of a double is the lower boundary of its successor and only one of the two significands is even. -/
theorem C04_decimal_adjacent_excl (d : Codec.Dec) (k : Int)
    (hk : k.natAbs / 2 ^ 52 < 2047) (hk1 : (k + 1).natAbs / 2 ^ 52 < 2047) :
    ¬ (Codec.decIsKey d k = true ∧ Codec.decIsKey d (k + 1) = true) :=
  fun ⟨h, h'⟩ => absurd (Codec.decIsKey_functional d k (k + 1) h h') (Int.ne_of_lt (Int.lt_succ k))

/-- a text with a zero mantissa denotes no positive key -/
theorem C04_decimal_zero_mant (d : Codec.Dec) (n : Nat) (hn : 0 < n) (hd : d.mant = 0) :
    Codec.decIsKey d (n : Int) = false :=
  Codec.decIsKey_zero_mant_pos d n hn hd

/-- the oracle raises no false alarm on the large integers of the C04 defect: every double `≥ 2^52`
    (an integer `M·2^t`; `1<<60`, nanosecond timestamps stored as float, …) is accepted with its
    exact integer text -/
theorem C04_decimal_exact_int_accepted (n t : Nat) (ht : n / 2 ^ 52 = 1075 + t) (hf : n / 2 ^ 52 < 2047) :
    Codec.decIsKey ⟨false, (2 ^ 52 + n % 2 ^ 52) * 2 ^ t, 0⟩ (n : Int) = true :=
  Codec.decIsKey_exact_int n t ht hf

/-- … and on everything below 2^52: every positive finite double with a negative binary exponent
    (all subnormals, all normals `< 2^52`) is accepted with the exact decimal expansion of its
    binary value `M·2^(-k) = M·5^k·10^(-k)` -/
theorem C04_decimal_exact_frac_accepted (n k : Nat) (hn : 0 < n) (he : n / 2 ^ 52 < 1075)
    (hk : (if n / 2 ^ 52 = 0 then 1074 else 1075 - n / 2 ^ 52) = k) :
    Codec.decIsKey ⟨false, (if n / 2 ^ 52 = 0 then n % 2 ^ 52 else 2 ^ 52 + n % 2 ^ 52) * 5 ^ k, -(k : Int)⟩
      (n : Int) = true :=
  Codec.decIsKey_exact_frac n k hn he hk

/-- the oracle is satisfiable at every finite key of either sign (the exact value is accepted):
    a correct encoder can always pass it, it never demands the impossible -/
theorem C04_decimal_satisfiable (k : Int) (hk : k.natAbs / 2 ^ 52 < 2047) :
    ∃ d : Codec.Dec, Codec.decIsKey d k = true :=
  Codec.decIsKey_satisfiable k hk

/-- THE DECIMAL ORACLE IS A PARTIAL FUNCTION from number texts to order keys: one text denotes at
    most one key, for every text and every two keys, no side condition (infinities and NaNs are
    never denoted).  With `C04_decimal_satisfiable` (onto the finite keys): a reloaded index value
    passes the comparison iff it is the double the text denotes, so any inexact reload is caught
    whatever the distance — the upper rounding boundaries are strictly increasing in the key
    (`upC_succ`) and each lower boundary is the predecessor's upper one (`loC_succ`). -/
theorem C04_decimal_functional (d : Codec.Dec) (k k' : Int)
    (h : Codec.decIsKey d k = true) (h' : Codec.decIsKey d k' = true) : k = k' :=
  Codec.decIsKey_functional d k k' h h'

/-- the digit reader under the number texts is positional -/
theorem C04_decimal_digits_positional (l : List Char) (c : Char) (hl : l ≠ []) (hc : c.isDigit = true) :
    Codec.digitsVal (l ++ [c]) = (Codec.digitsVal l).map (fun a => a * 10 + (c.toNat - 48)) :=
  Codec.digitsVal_snoc l c hl hc

/-- … and rejects anything but digits -/
theorem C04_decimal_digits_reject (l r : List Char) (c : Char) (hc : c.isDigit = false) :
    Codec.digitsVal (l ++ c :: r) = none :=
  Codec.digitsVal_nondigit l r c hc

/-! ### the comparison of schema.json with the model's image (`Codec.checkSchema`, run by `simg`):
    what an accepted file has in common with the image, checker by checker -/

/-- THE ENTRY COMPARISON OF `simg` IS EXACT: within one cast (the type of the index), a JSON value
    read from schema.json stands for at most one model value — integers by injectivity of the
    decimal rendering (`Int.repr_injective`, `Nat.repr_injective`), floats by
    `C04_decimal_functional`, strings by byte equality.  So `Codec.checkEntries` cannot accept a
    file whose entry differs from the model's in value. -/
theorem C04_schema_value_exact (j : Json.J) (v w : Val) (ht : Codec.Val.tag v = Codec.Val.tag w)
    (h : Codec.valueIs j v = true) (h' : Codec.valueIs j w = true) : v = w :=
  Codec.valueIs_functional j v w ht h h'

/-- … and a JSON string never stands for a number nor a JSON number for a string -/
theorem C04_schema_value_kind (j : Json.J) (v : Val) (h : Codec.valueIs j v = true) :
    (∃ b, j = .str b ∧ ∃ s, v = .str s) ∨ (∃ l, j = .num l ∧ ∀ s, v ≠ .str s) :=
  Codec.valueIs_kind j v h

/-- end to end through the reader (`parseDec` → `decIsKey` → `valueIs`): for a double `≥ 2^52`, a
    plain digit string whose value is the double's exact integer value is accepted as that double -/
theorem C04_schema_exact_int_text_accepted (cs : List Char) (n t : Nat) (hne : cs ≠ [])
    (hd : ∀ c ∈ cs, c.isDigit = true) (hv : Codec.digitsVal cs = some ((2 ^ 52 + n % 2 ^ 52) * 2 ^ t))
    (ht : n / 2 ^ 52 = 1075 + t) (hf : n / 2 ^ 52 < 2047) :
    Codec.valueIs (.num (String.ofList cs)) (.f64 (n : Int)) = true :=
  (Codec.valueIs_digits cs hne hd hv _).trans (Codec.decIsKey_exact_int n t ht hf)

/-- an entry list of schema.json accepted by the comparison has exactly as many entries as the
    model's index of that field (no entry dropped or added by a write/reload can pass) -/
theorem C04_schema_entries_count (name : String) (fi mi : List (Nat × Nat)) (fuel i : Nat)
    (js : List Json.J) (es : FIdx) (h : Codec.checkEntries name fi mi fuel i js es = .ok ()) :
    js.length = es.length :=
  (Codec.checkEntries_ok name fi mi fuel i js es h).1

/-- ENTRY BY ENTRY: in an accepted entry list every file entry, paired with the model entry at the
    same position, is a well-formed `[value, id]` pair whose value stands for the model's value —
    with `C04_schema_value_exact` and `C04_schema_entries_count`: the sequence of values of an
    accepted index in schema.json IS the model's sequence of values (order included) -/
theorem C04_schema_entries_exact (name : String) (fi mi : List (Nat × Nat)) (fuel i : Nat)
    (js : List Json.J) (es : FIdx) (h : Codec.checkEntries name fi mi fuel i js es = .ok ()) :
    ∀ p ∈ js.zip es, ∃ v o, Codec.entryOf p.1 = some (v, o) ∧ Codec.valueIs v p.2.1 = true :=
  (Codec.checkEntries_ok name fi mi fuel i js es h).2

/-- the comparison of schema.json is closed on keys: an accepted JSON object has only the expected
    keys (a stray or misspelt key is a difference, never ignored) -/
theorem C04_schema_keys_closed (j : Json.J) (allowed : List String) (what : String)
    (h : Codec.keysWithin j allowed what = .ok ()) :
    ∃ kv, j = .obj kv ∧ ∀ p ∈ kv, ∃ a ∈ allowed, Codec.sbytes a = p.1 :=
  Codec.keysWithin_ok j allowed what h

/-- accepted constraints are the model's constraints flag by flag (an absent flag reads false), so a
    reopened schema whose file lost or gained `unique`/`index`/`upper`/`lower` cannot pass -/
theorem C04_schema_constraints_exact (j : Json.J) (c : Cons) (what : String)
    (h : Codec.checkCons (some j) c what = .ok ()) :
    Codec.getBool j "index" (some false) = .ok c.index ∧ Codec.getBool j "unique" (some false) = .ok c.unique ∧
    Codec.getBool j "upper" (some false) = .ok c.upper ∧ Codec.getBool j "lower" (some false) = .ok c.lower :=
  let ⟨_, e, r⟩ := Codec.checkCons_ok _ c what h
  Option.some.inj e ▸ r

/-- accepted async settings are the model's: on/off agree, and when on the threshold text is the
    model's threshold and the timeout string is a Go duration of the model's number of 100 ms steps -/
theorem C04_schema_async_exact (j : Option Json.J) (a : Option Async) (h : Codec.checkAsync j a = .ok ()) :
    (a = none → ∀ jj, j = some jj → Codec.getBool jj "enable" none = .ok false) ∧
    (∀ aa, a = some aa → ∃ jj, j = some jj ∧ Codec.getBool jj "enable" none = .ok true ∧
      ∃ t d ns, jj.get? "threshold" = some (.num t) ∧ jj.get? "timeout" = some (.str d) ∧
        t = toString aa.threshold ∧ Codec.parseDurationNs (String.ofList (d.map Char.ofNat)) = some ns ∧
        (ns + 99999999) / 100000000 = aa.timeout) :=
  Codec.checkAsync_ok j a h

/-- an accepted field index of schema.json carries the model's name, cast, constraints and number
    of entries -/
theorem C04_schema_field_index_exact (fileIds modelIds : List (Nat × Nat)) (j : Json.J) (fi : FieldIdx)
    (h : Codec.checkFieldIndex fileIds modelIds j fi = .ok ()) :
    Codec.getStr j "name" = .ok (Codec.sbytes fi.name) ∧ Codec.getStr j "cast" = .ok (Codec.sbytes fi.cast.name) ∧
    (∃ cj, j.get? "constraints" = some cj ∧
      Codec.getBool cj "index" (some false) = .ok fi.cons.index ∧ Codec.getBool cj "unique" (some false) = .ok fi.cons.unique ∧
      Codec.getBool cj "upper" (some false) = .ok fi.cons.upper ∧ Codec.getBool cj "lower" (some false) = .ok fi.cons.lower) ∧
    ∃ l, j.get? "index" = some (.arr l) ∧ l.length = fi.idx.length :=
  Codec.checkFieldIndex_ok fileIds modelIds j fi h

/-- an accepted object-id table of schema.json is an object whose every member is
    `"<oid>": "h<uuid-handle>"`, and the comparison returns exactly one pair per member (no member
    is skipped; that the uuid sets agree goes through `Array.qsort` and is executable only) -/
theorem C04_schema_ids_wellformed (j : Json.J) (ids got : List (Nat × Nat)) (h : Codec.checkIds j ids = .ok got) :
    ∃ kv, j = .obj kv ∧ got.length = kv.length ∧
      ∀ p ∈ got, ∃ q ∈ kv, Codec.natOf q.1 = some p.1 ∧ ∃ b, q.2 = .str b ∧ Codec.handleOf b = some p.2 :=
  Codec.checkIds_ok j ids got h

end Sod.Props
