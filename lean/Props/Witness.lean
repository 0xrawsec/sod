/-
  Non-vacuity of the property theorems C01 … C20: the theorems of every property file are instantiated at
  concrete states with all hypotheses discharged.

  A witness state is a constant defined as a projection of a run of the model (`c1 := (Coll.insert E c0 o1 101).1`).
  What the hypotheses ask of it (`Inv'`, `Synced`, `ShapeOk`, `Sim` …) is derived by the project's own theorems:
  `create_first` and `created_inv` for the created collection (`inv_empty` for the asynchronous one, after its first
  access), then `step`, which collects what they give for one accepted insert, one `Step` record per state.
  Only closed side conditions on the test vectors (what is stored, the index literals, typedness, string tables,
  decimal keys, the generated lock tables) are evaluated, by `decide +kernel` where the elaborator evaluates
  badly (comparison of strings, bisection of an index, long lists).
  A constant is exchanged for its run by its equation (`rw [c1]`), never by unfolding under `rfl`: to compare `c1`
  with the projection, or two projections of such constants (`cT.live` with `c2.live`), the kernel evaluates the
  runs, from `create` on.

  Witness states
    c0 → c1 → c2 (→ c3)   synchronous, uncached: create, insert o1, insert o2 (insert o3); schemas l0 … l3
    ca0 → ca              asynchronous (threshold 2, timeout 3): create + first access, insert o1 (pending)
    cu0 → cu1 → cu2       as c2 but with the field S not indexed (C12_index_independent)
    c2a                   c2 switched to asynchronous writes by a compatible `create` (C01_config_independent)
    cT, cR                c2 tampered (a file removed) / reopened with a changed Go struct (C11, C17)
    lk0 → lk1             lock machine: DB.AssignIndex ∥ DB.Commit, one granted step (C08, C09)
    progs, linFinal       two one-section calls and a complete run of both (C08_linearizable)
    st0, st1, rdVal …     clone store (C14)

  Findings
    * A readability hypothesis about `get` that quantifies over every collection state (also a handle without
      schema, where every `get` fails) can be met only by the empty list: `old_C13_limit_hypothesis_only_nil`.
      `C13_limit` is stated under `Inv' c l` and is instantiated on the two objects of `c2`.
    * `C08_race_free` concludes `False`: its hypotheses are jointly contradictory by design.  It is instantiated as
      a refutation of its last hypothesis, all the others holding.
    * The state a first `create` with asynchronous settings returns has `flusher = false` and satisfies `Inv'` only
      after the next access, which starts the flusher (`fresh_async_create_not_inv`): the asynchronous witness
      starts at `ca0` = create + first access.

  Not instantiated
    * nothing to discharge (no hypothesis, a closed regenerated fact, or pure logic): C02_or_mem,
      C02_expects_members, C04_decimal_zero, C05_update_counterexample, C08_accesses_covered, C08_one_section,
      C09_entries_ok, C09_pinned_release_deadlock, C13_and_sorted, C14_unexported_exception, C18_format_pinned,
      C20_uuids_of_entries, demoIx_wf (Props/C03), C11_control_iff (its companion C11_corrupted_iff is used);
    * the arithmetic and the soundness lemmas of the schema-image checker (Proofs/Codec), though they have
      hypotheses: C04_decimal_digits_positional, C04_decimal_digits_reject, C04_decimal_nonfinite,
      C04_decimal_satisfiable, C04_decimal_sign, C04_decimal_zero_mant, C04_schema_value_kind,
      C04_schema_async_exact, C04_schema_entries_exact, C04_schema_field_index_exact, C04_schema_ids_wellformed;
    * C04_schema_entries_count, C04_schema_constraints_exact, C04_schema_keys_closed: the hypothesis (a checker
      answers `.ok ()`) is tested on concrete inputs by `#guard`, not proved (`checkEntries` sorts with
      `Array.qsort`, which the kernel does not unfold).
-/
import Props
namespace Sod.Props.Witness
open Sod

/-! ## 1. descriptors, settings, environment -/

def dN : FieldDesc := { path := "N", type := "int64", cast := some .i64, cons := { index := true, unique := true } }
def dS : FieldDesc := { path := "S", type := "string", cast := some .str, cons := { index := true, upper := true } }
def dF : FieldDesc := { path := "F", type := "uint32", cast := some .u64, cons := {} }
def dB : FieldDesc := { path := "B", type := "bool", cast := none, cons := {} }

def descs2 : List FieldDesc := [dN, dS, dF, dB]
def live2 : List (String × String) := [("N", "int64"), ("S", "string"), ("F", "uint32"), ("B", "bool")]

def st2 : Settings := {}
def sta : Settings := { async := some ⟨2, 3⟩ }

def upB (b : Nat) : Nat := if 97 ≤ b ∧ b ≤ 122 then b - 32 else b
def loB (b : Nat) : Nat := if 65 ≤ b ∧ b ≤ 90 then b + 32 else b

def E : Env :=
  { up := List.map upB
    lo := List.map loB
    transform := id
    validate := fun o => o.shape != "bad"
    compile := fun s => if s = [42] then none else some (fun b => s.isPrefixOf b)
    serialisable := fun o => o.shape != "chan" }

theorem upB_not_lower (b : Nat) : ¬ (97 ≤ upB b ∧ upB b ≤ 122) := by
  unfold upB
  split
  · next h => exact fun h' => absurd (Nat.le_trans h'.1 (Nat.sub_le_sub_right h.2 32)) (by decide)
  · next h => exact h
theorem loB_not_upper (b : Nat) : ¬ (65 ≤ loB b ∧ loB b ≤ 90) := by
  unfold loB
  split
  · next h => exact fun h' => absurd (Nat.le_trans (Nat.add_le_add_right h.1 32) h'.2) (by decide)
  · next h => exact h

theorem upB_idem (b : Nat) : upB (upB b) = upB b := if_neg (upB_not_lower b)
theorem loB_idem (b : Nat) : loB (loB b) = loB b := if_neg (loB_not_upper b)
theorem loB_upB (b : Nat) : loB (upB b) = loB b := by
  unfold upB
  split
  · next h =>
    have hu : 65 ≤ b - 32 ∧ b - 32 ≤ 90 := ⟨Nat.le_sub_of_add_le h.1, Nat.sub_le_sub_right h.2 32⟩
    have hn : ¬ (65 ≤ b ∧ b ≤ 90) := fun h' => absurd (Nat.le_trans h.1 h'.2) (by decide)
    exact (if_pos hu).trans ((Nat.sub_add_cancel (Nat.le_trans (by decide) h.1)).trans (if_neg hn).symm)
  · rfl
theorem loupB_idem (b : Nat) : loB (upB (loB (upB b))) = loB (upB b) :=
  (loB_upB _).trans (loB_idem _)

/-- the three laws assumed about strings.ToUpper / strings.ToLower hold for the ASCII mappings -/
theorem caseLaws : CaseLaws E where
  up_idem s := by simp only [E, List.map_map, Function.comp_def, upB_idem]
  lo_idem s := by simp only [E, List.map_map, Function.comp_def, loB_idem]
  loup_idem s := by simp only [E, List.map_map, Function.comp_def, loupB_idem]

/-! ## 2. tools: a fact about a string literal (`of_chars`), one accepted insert (`Step`, `step`) -/

/-- a fact about the characters of a string literal: with `hs := rfl` the unifier reads them off the literal;
    evaluating `String.toList` instead takes time quadratic in the length -/
theorem of_chars {s : String} {l : List Char} {p : List Char → Prop} (hs : s = String.ofList l) (h : p l) :
    p s.toList := by
  subst hs; rw [String.toList_ofList]; exact h

/-- what an accepted insert establishes about the state `c'` it returns (`os` the object stored, `ix'` the new
    index); `typed` is a side condition, kept for the theorems that ask for it -/
structure Step (c : Coll) (l : Loaded) (o : Obj) (fresh : Nat) (os : Obj) (ix' : ObjIndex) (c' : Coll) : Prop where
  typed : (storedObj E l o fresh).Typed l.index
  eq : Coll.insert E c o fresh = (c', .ok ())
  iou : l.index.insertOrUpdate os = .ok ix'
  inv : Inv' c' { l with index := ix' }
  view : c'.view = updView c.view os.uuid (some os)
  live : c'.live = c.live
  synced : l.settings.async = none → Synced c l → Synced c' { l with index := ix' }
  log : l.settings.async = none → Synced c l →
    c'.log = c.log ++ [.writeObj os, .writeSchema ({ l with index := ix' } : Loaded).img]

theorem Step.ok {c l o fresh os ix' c'} (s : Step c l o fresh os ix' c') : (Coll.insert E c o fresh).2 = .ok () :=
  congrArg Prod.snd s.eq

theorem Step.shape {c l o fresh os ix' c'} (s : Step c l o fresh os ix' c') (hk : ShapeOk c l) :
    ShapeOk c' { l with index := ix' } :=
  hk.congr rfl s.live

/-- The four closed side conditions `hside` are left to evaluation (the kernel's: the index operations bisect by
    well-founded recursion).  `c'` is a parameter for which `hc` puts the witness constant, by its equation
    (`rw [c1]`): left to unfolding, the kernel decides `c1 = (Coll.insert E c0 o1 101).1` by evaluating the
    insert, from `create` on. -/
theorem step {c : Coll} {l : Loaded} (h : Inv' c l) (o : Obj) (fresh : Nat) {os : Obj} {ix' : ObjIndex}
    (hst : storedObj E l o fresh = os)
    (hside : E.validate (E.canon l.descs (E.transform o)) = true ∧ E.serialisable os = true ∧ os.Typed l.index ∧
      l.index.insertOrUpdate os = .ok ix') {c' : Coll} (hc : c' = (Coll.insert E c o fresh).1) :
    Step c l o fresh os ix' c' := by
  obtain ⟨hval, hser, ht, hiou⟩ := hside
  subst hst
  have hr := insert_ok_of h.toInv o fresh hval hser (insertOrUpdate_ok_iff.mp hiou).1
  obtain ⟨ix'', hix, he, hI, hv, _⟩ := insert_accepted_eq h o fresh ht hr
  cases hix.symm.trans hiou
  have hsync := fun ha hs => C04_sync_insert_commits h hs ha o fresh ht hr
  have hlog := fun ha hs => C05_insert_ops h hs ha o fresh ht hr
  have hc' := congrArg Prod.fst he
  dsimp only at hc'
  rw [hc'] at hc hsync hlog
  subst hc
  refine ⟨ht, he, hiou, hI, hv, insState_live .., fun ha hs => ?_, fun ha hs => ?_⟩
  -- C04 and C05 speak of some schema and some index: the schema is the cached one, the index the answer `hiou`
  · obtain ⟨l', hI', hs'⟩ := hsync ha hs
    cases Option.some.inj (hI'.mem.symm.trans hI.mem)
    exact hs'
  · obtain ⟨ix'', hix, hl⟩ := hlog ha hs
    cases hix.symm.trans hiou
    exact hl

/-! ## 3. the synchronous collection: `create`, then accepted inserts -/

/-- an empty directory and a new handle -/
def cE : Coll := { live := live2 }

def l0 : Loaded := { descs := descs2, settings := st2, index := ObjIndex.new descs2 }
def c0 : Coll := (cE.create descs2 st2).1

theorem compat2 : descsCompatFields descs2 live2 = true := by decide +kernel
theorem create0 : cE.create descs2 st2 = (created live2 descs2 st2, .ok ()) := create_first st2 compat2
theorem create_ok : (cE.create descs2 st2).2 = .ok () := congrArg Prod.snd create0
theorem c0_eq : c0 = created live2 descs2 st2 := by rw [c0, create0]

theorem view0 : c0.view = fun _ => none := by rw [c0_eq]; rfl
theorem inv0 : Inv' c0 l0 := by rw [c0_eq]; exact created_inv rfl
theorem synced0 : Synced c0 l0 := by rw [c0_eq]; exact ⟨rfl, rfl, rfl⟩
theorem shape0 : ShapeOk c0 l0 := by rw [c0_eq]; exact compat2

/-- the objects the caller supplies (lower / mixed case strings) … -/
def o1 : Obj := { uuid := 1, shape := "p", vals := [.v (.i64 10), .v (.str [97, 98]), .v (.u64 7), .opaque "true"] }
def o2 : Obj := { uuid := 2, shape := "q", vals := [.v (.i64 20), .v (.str [65, 98]), .v (.u64 3), .opaque "false"] }
/-- … an unidentified third one (its uuid will be the drawn one, 3) … -/
def o3 : Obj := { uuid := 0, shape := "r", vals := [.v (.i64 15), .v (.str [97, 97]), .v (.u64 7), .opaque "true"] }
/-- … and what is stored: "AB", "AB" (a tie on the non-unique field), "AA" -/
def o1s : Obj := { uuid := 1, shape := "p", vals := [.v (.i64 10), .v (.str [65, 66]), .v (.u64 7), .opaque "true"] }
def o2s : Obj := { uuid := 2, shape := "q", vals := [.v (.i64 20), .v (.str [65, 66]), .v (.u64 3), .opaque "false"] }
def o3s : Obj := { uuid := 3, shape := "r", vals := [.v (.i64 15), .v (.str [65, 65]), .v (.u64 7), .opaque "true"] }

def fN (idx : FIdx) : FieldIdx := { name := "N", pos := 0, cast := .i64, cons := dN.cons, idx := idx }
def fS (idx : FIdx) : FieldIdx := { name := "S", pos := 1, cast := .str, cons := dS.cons, idx := idx }

def ix0 : ObjIndex := { next := 0, ids := [], fields := [fN [], fS []] }
def ix1 : ObjIndex := { next := 1, ids := [(0, 1)], fields := [fN [(.i64 10, 0)], fS [(.str [65, 66], 0)]] }
/-- the S index holds a tie, in insertion order -/
def ix2 : ObjIndex :=
  { next := 2, ids := [(0, 1), (1, 2)],
    fields := [fN [(.i64 20, 1), (.i64 10, 0)], fS [(.str [65, 66], 0), (.str [65, 66], 1)]] }
def ix3 : ObjIndex :=
  { next := 3, ids := [(0, 1), (1, 2), (2, 3)],
    fields := [fN [(.i64 20, 1), (.i64 15, 2), (.i64 10, 0)],
               fS [(.str [65, 66], 0), (.str [65, 66], 1), (.str [65, 65], 2)]] }

theorem new_eq : ObjIndex.new descs2 = ix0 := by decide +kernel

def l1 : Loaded := { l0 with index := ix1 }
def l2 : Loaded := { l0 with index := ix2 }
def l3 : Loaded := { l0 with index := ix3 }

def c1 : Coll := (Coll.insert E c0 o1 101).1
def c2 : Coll := (Coll.insert E c1 o2 102).1

theorem step1 : Step c0 l0 o1 101 o1s ix1 c1 :=
  step inv0 o1 101 (by rfl) (by decide +kernel) (by rw [c1])

theorem inv1 : Inv' c1 l1 := step1.inv
theorem synced1 : Synced c1 l1 := step1.synced rfl synced0
theorem shape1 : ShapeOk c1 l1 := step1.shape shape0

theorem step2 : Step c1 l1 o2 102 o2s ix2 c2 :=
  step inv1 o2 102 (by rfl) (by decide +kernel) (by rw [c2])

theorem ins1_ok : (Coll.insert E c0 o1 101).2 = .ok () := step1.ok
theorem ins2_ok : (Coll.insert E c1 o2 102).2 = .ok () := step2.ok

/-! ### what holds of `c2` / `l2` -/

theorem inv2 : Inv' c2 l2 := step2.inv
theorem inv2_weak : Sod.Inv c2 l2 := inv2.toInv
theorem synced2 : Synced c2 l2 := step2.synced rfl synced1
theorem shape2 : ShapeOk c2 l2 := step2.shape shape1
theorem wf2 : ObjIndex.WF l2.index := inv2.wf
theorem reflects2 : Reflects l2.index c2.view := inv2.refl
theorem schema2 : c2.schema = (c2, .ok l2) := schema_of_inv inv2_weak
theorem mem2 : c2.mem = some l2 := inv2.mem
theorem pending2 : c2.pending = [] := synced2.pending
theorem live2_eq : c2.live = live2 := by rw [step2.live, step1.live, c0_eq]; rfl
theorem pendNodup2 : PendNodup c2 := PendNodup.of_nil pending2

theorem view2 : c2.view = fun u => if u = 2 then some o2s else if u = 1 then some o1s else none := by
  rw [step2.view, step1.view, view0]; rfl

theorem view2_some {u : Nat} {o : Obj} (h : c2.view u = some o) : (u = 2 ∧ o = o2s) ∨ (u = 1 ∧ o = o1s) := by
  rw [view2] at h
  dsimp only at h
  split at h
  · next h2 => exact Or.inl ⟨h2, (Option.some.inj h).symm⟩
  · split at h
    · next h1 => exact Or.inr ⟨h1, (Option.some.inj h).symm⟩
    · cases h

theorem view2_zero : c2.view 0 = none := by rw [view2]; rfl

theorem log2 : c2.log = [.mkdir, .writeSchema l0.img, .writeObj o1s, .writeSchema l1.img, .writeObj o2s, .writeSchema l2.img] := by
  rw [step2.log rfl synced1, step1.log rfl synced0, c0_eq]; rfl

/-! ### a third insert: `c3` / `l3` -/

def c3 : Coll := (Coll.insert E c2 o3 3).1

theorem stored3 : storedObj E l2 o3 3 = o3s := by rfl
theorem step3 : Step c2 l2 o3 3 o3s ix3 c3 :=
  step inv2 o3 3 stored3 (by decide +kernel) (by rw [c3])

theorem typed3s : Obj.Typed l2.index (storedObj E l2 o3 3) := step3.typed
theorem typed3 : Obj.Typed l2.index o3s := stored3 ▸ typed3s
theorem ins3_ok : (Coll.insert E c2 o3 3).2 = .ok () := step3.ok
theorem inv3 : Inv' c3 l3 := step3.inv
theorem iou3 : l2.index.insertOrUpdate o3s = .ok ix3 := step3.iou

/-! ### the abstract (specification) side: `Sim` -/

def cfg2 : SpecCfg := { descs := descs2, uniquePos := [0] }
def s0 : Spec := { map := fun _ => none, dom := [] }
def s2 : Spec := { map := fun u => if u = 2 then some o2s else if u = 1 then some o1s else none, dom := [1, 2] }

theorem sim_cfg2 {c : Coll} {l : Loaded} {s : Spec} (hi : Inv' c l) (hv : c.view = s.map) (hd : l.index.uuids = s.dom)
    (hdescs : l.descs = descs2) (hu : l.index.uniquePos = [0]) : Sim cfg2 c l s :=
  ⟨hi, hv.symm, hd ▸ List.Perm.refl _, hdescs.symm, fun _ => hu ▸ Iff.rfl⟩

theorem sim0 : Sim cfg2 c0 l0 s0 := sim_cfg2 inv0 view0 rfl rfl (by decide)

theorem sim2 : Sim cfg2 c2 l2 s2 := sim_cfg2 inv2 view2 rfl rfl (by decide)

/-! ## 4. the asynchronous collection: `create`, first access (starts the flusher), one pending insert -/

def la0 : Loaded := { descs := descs2, settings := sta, index := ObjIndex.new descs2, flusher := true }
def ca0 : Coll := ((cE.create descs2 sta).1.schema).1

theorem createa : cE.create descs2 sta = (created live2 descs2 sta, .ok ()) := create_first sta compat2
theorem ca0_eq : ca0 = { created live2 descs2 sta with mem := some la0 } := by
  rw [ca0, createa]
  rfl

theorem inva0 : Inv' ca0 la0 := by rw [ca0_eq]; exact inv_empty rfl rfl rfl rfl rfl fun _ => rfl
theorem shapea0 : ShapeOk ca0 la0 := by rw [ca0_eq]; exact compat2

/-- right after a first `create` with asynchronous settings the flusher is not started yet, so NO loaded
    schema makes `Inv'` hold; the first access (`Coll.schema`) repairs this -/
theorem fresh_async_create_not_inv : ¬ ∃ l, Inv' (cE.create descs2 sta).1 l := by
  rintro ⟨l, h⟩
  rw [createa] at h
  have hl := Option.some.inj (h.mem.symm.trans (rfl : (created live2 descs2 sta).mem = some { la0 with flusher := false }))
  subst hl
  exact absurd (h.flusher rfl) (by decide)

def la1 : Loaded := { la0 with index := ix1 }
def ca : Coll := (Coll.insert E ca0 o1 101).1

theorem stepa : Step ca0 la0 o1 101 o1s ix1 ca :=
  step inva0 o1 101 (by rfl) (by decide +kernel) (by rw [ca])

theorem insa_ok : (Coll.insert E ca0 o1 101).2 = .ok () := stepa.ok
theorem inva : Inv' ca la1 := stepa.inv
theorem shapea : ShapeOk ca la1 := stepa.shape shapea0
theorem pendNodup_a0 : PendNodup ca0 := PendNodup.of_nil (by rw [ca0_eq]; rfl)
theorem pendNodup_a : PendNodup ca := by
  rw [ca]
  exact pendNodup_a0.insert E o1 101

theorem typed_a0 : Obj.Typed la0.index (assignNew (E.canon la0.descs (E.transform o1)) 101) := stepa.typed
theorem pending_a : ca.pending.get? 1 = some o1s := by
  have := async_insert_pending inva0 o1 101 typed_a0 rfl insa_ok
  rwa [stepa.eq] at this
theorem disk_a : ca.disk = ca0.disk := by
  have := (async_insert_no_write inva0 o1 101 typed_a0 rfl).1
  rwa [stepa.eq] at this

/-! ## 5. the property theorems instantiated at the witnesses -/

/-! ### C01 -/

def calls3 : List Call := [.ins o3 3, .get 1, .exist 9, .del 2, .count, .all]

theorem callsTyped3 : CallsTyped E l2 calls3 := by decide +kernel

example : ∃ l' s' obsSpec, Spec.Run cfg2 E s2 calls3 s' obsSpec ∧
      ObsListEq (Coll.run E c2 calls3).snd obsSpec ∧ Sim cfg2 (Coll.run E c2 calls3).fst l' s' ∧ Stable l2 l' :=
  C01_refines sim2 callsTyped3

example : ∃ l' s' obsSpec, Spec.Run cfg2 E s0 [.ins o1 101, .ins o2 102] s' obsSpec ∧
      ObsListEq (Coll.run E c0 [.ins o1 101, .ins o2 102]).snd obsSpec ∧
      Sim cfg2 (Coll.run E c0 [.ins o1 101, .ins o2 102]).fst l' s' ∧ Stable l0 l' :=
  C01_refines sim0 (by decide +kernel)

example : ((iter 5 (fun c => (c.get 9).fst) c2).get 9).snd = Res.err Err.notFound :=
  C01_absent_always sim2 9 rfl 5

example : (Coll.step E (Coll.run E c2 [.get 1, .count, .exist 2]).fst (Call.get 9)).snd = Obs.obj (Res.err Err.notFound) :=
  C01_absent_after_reads sim2 9 rfl [.get 1, .count, .exist 2] (by decide +kernel)

example : Sim { descs := descs2, uniquePos := (ObjIndex.new descs2).uniquePos } (emptyColl descs2 sta)
    (emptyLoaded descs2 sta) { map := fun _ => none, dom := [] } := C01_initial descs2 sta

def c2a : Coll := (c2.create descs2 sta).fst
def l2a : Loaded := createLoaded l2 sta

theorem compatSelf2 : compatErr l2 sta.ext descs2 = none := by decide +kernel

theorem switch2 : (c2.create descs2 sta).snd = Res.ok () ∧ (c2.create descs2 sta).fst.pending = [] ∧
    (c2.create descs2 sta).fst.cache = [] ∧ (c2.create descs2 sta).fst.view = c2.view ∧
    Inv' (c2.create descs2 sta).fst (createLoaded l2 sta) :=
  C17_switch_settings descs2 sta inv2 pendNodup2 compatSelf2

theorem sim2a : Sim cfg2 c2a l2a s2 := by
  obtain ⟨_, _, _, hv, hi⟩ := switch2
  rw [c2a, l2a]
  exact sim_cfg2 hi (hv.trans view2) rfl rfl (by decide)

theorem callsTyped3a : CallsTyped E l2a calls3 :=
  fun k hk => (callsTyped3 k hk).congr rfl rfl

example : ObsListEq (Coll.run E c2 calls3).snd (Coll.run E c2a calls3).snd :=
  C01_config_independent sim2 sim2a callsTyped3 callsTyped3a

/-! ### C02 -/

theorem fieldS : l2.index.field? "S" = some (fS [(.str [65, 66], 0), (.str [65, 66], 1)]) := by decide +kernel
theorem fieldN : l2.index.field? "N" = some (fN [(.i64 20, 1), (.i64 10, 0)]) := by decide +kernel
theorem resolvable (f : String) (h : pathResolvable live2 f = true) : pathResolvable c2.live f = true := by
  rw [live2_eq]; exact h
theorem resS : pathResolvable c2.live "S" = true := resolvable "S" (by decide +kernel)
theorem resN : pathResolvable c2.live "N" = true := resolvable "N" (by decide +kernel)
theorem resF : pathResolvable c2.live "F" = true := resolvable "F" (by decide +kernel)
theorem prepS : E.prepare l2.descs "S" (Leaf.v (.str [97, 98])) = Leaf.v (.str [65, 66]) := by decide +kernel
theorem prepN : E.prepare l2.descs "N" (Leaf.v (.str [49])) = Leaf.v (.str [49]) := by decide +kernel
theorem posS : descPos? l2.descs "S" = some (1, dS) := by decide +kernel

/-- searching S = "ab" (lower case supplied, upper case stored): exactly the two tied objects -/
example : ∃ s, Coll.search E c2 "S" (some .eq) (Leaf.v (.str [97, 98])) none = (c2, s) ∧ s.err = none ∧
      (∀ e ∈ s.fields, ∃ u, l2.index.uuidOf e.snd = some u ∧ Matches c2 (fun _ => false) .eq 1 (.str [65, 66]) u) ∧
      (∀ u, Matches c2 (fun _ => false) .eq 1 (.str [65, 66]) u → ∃ e ∈ s.fields, l2.index.uuidOf e.snd = some u) ∧
      Desc s.fields ∧ (s.fields.map (·.snd)).Nodup :=
  C02_search_indexed inv2 fieldS resS prepS rfl (by decide)

theorem fieldF : l2.index.field? "F" = none := by decide +kernel
theorem posF : descPos? l2.descs "F" = some (2, dF) := by decide +kernel

theorem hasF : ∀ u o, c2.view u = some o → ∃ x, o.field 2 = Leaf.v x := by
  intro u o h
  rcases view2_some h with ⟨_, rfl⟩ | ⟨_, rfl⟩
  · exact ⟨.u64 3, rfl⟩
  · exact ⟨.u64 7, rfl⟩

example : ∃ c' s, Coll.search E c2 "F" (some .ge) (Leaf.v (.u64 5)) none = (c', s) ∧ s.err = none ∧
      c'.view = c2.view ∧ c'.disk = c2.disk ∧
      (∀ e ∈ s.fields, ∃ u, l2.index.uuidOf e.snd = some u ∧ Matches c2 (fun _ => false) .ge 2 (.u64 5) u) ∧
      (∀ u, Matches c2 (fun _ => false) .ge 2 (.u64 5) u → ∃ e ∈ s.fields, l2.index.uuidOf e.snd = some u) ∧
      (s.fields.map (·.snd)).Nodup :=
  C02_search_unindexed inv2 fieldF resF (by decide +kernel) posF rfl (by decide) hasF

/-- an earlier result (both objects, in N order) -/
def sN : Search := { fields := [(.i64 20, 1), (.i64 10, 0)] }

example (u : Nat) : Denotes l2 (Coll.searchAnd E c2 sN "S" (some .le) (Leaf.v (.str [97, 98]))).snd.fields u ↔
      Denotes l2 sN.fields u ∧ Matches c2 (fun _ => false) .le 1 (.str [65, 66]) u :=
  C02_and_intersection inv2 fieldS resS prepS rfl (by decide) sN rfl (by decide) u

example : (Coll.searchOr E c2 sN "N" (some .gt) (Leaf.v (.i64 15))).fst = c2 ∧
    ((sN.fields.map (·.snd)).Nodup → ((Coll.searchOr E c2 sN "N" (some .gt) (Leaf.v (.i64 15))).snd.fields.map (·.snd)).Nodup) ∧
    ∀ u, Denotes l2 (Coll.searchOr E c2 sN "N" (some .gt) (Leaf.v (.i64 15))).snd.fields u ↔
      Matches c2 (fun _ => false) .gt 0 (.i64 15) u ∨ Denotes l2 sN.fields u :=
  C02_or_is_union inv2 fieldN resN (by decide +kernel) rfl (by decide) sN rfl

example : ∃ c' l', c2.searchDelete sN = (c', Res.ok ()) ∧ Inv' c' l' ∧
      c'.view = fun w => if w ∈ sN.uuids l2 then none else c2.view w :=
  C02_search_delete inv2 sN rfl

theorem memS : fS [(.str [65, 66], 0), (.str [65, 66], 1)] ∈ l2.index.fields := List.mem_of_find?_eq_some fieldS
theorem memN : fN [(.i64 20, 1), (.i64 10, 0)] ∈ l2.index.fields := List.mem_of_find?_eq_some fieldN

example : ∃ r, ObjIndex.searchOp none .ge (fN [(.i64 20, 1), (.i64 10, 0)]).idx (.i64 15) = .ok r ∧
      (∀ e : Entry, e ∈ r ↔ ∃ u o, (e.2, u) ∈ l2.index.ids ∧ c2.view u = some o ∧ o.field 0 = .v e.1 ∧
                                   Val.eval (fun _ => false) .ge e.1 (.i64 15) = true) ∧
      r.Sublist (fN [(.i64 20, 1), (.i64 10, 0)]).idx :=
  C02_collection_exact wf2 reflects2 memN .ge (by decide) none (.i64 15)

example : ∃ r, ObjIndex.searchOp (some fun b => [65].isPrefixOf b) .re (fS [(.str [65, 66], 0), (.str [65, 66], 1)]).idx (.str [65]) = .ok r ∧
      (∀ e : Entry, e ∈ r ↔ ∃ u o, (e.2, u) ∈ l2.index.ids ∧ c2.view u = some o ∧ o.field 1 = .v e.1 ∧
                                   Val.eval (fun b => [65].isPrefixOf b) .re e.1 (.str [65]) = true) ∧
      r.Sublist (fS [(.str [65, 66], 0), (.str [65, 66], 1)]).idx :=
  C02_pattern_exact wf2 reflects2 memS rfl (fun b => [65].isPrefixOf b) [65]

/-- the S index of the three-object collection `c3`: descending, with a tie -/
theorem descS3 : Desc [((.str [65, 66] : Val), 0), (.str [65, 66], 1), (.str [65, 65], 2)] :=
  (inv3.wf.fields (fS _) (List.mem_cons_of_mem _ List.mem_cons_self)).desc

example : ObjIndex.searchOp none .gt [((.str [65, 66] : Val), 0), (.str [65, 66], 1), (.str [65, 65], 2)] (.str [65, 65]) =
    .ok ([((.str [65, 66] : Val), 0), (.str [65, 66], 1), (.str [65, 65], 2)].filter
          (fun e => Val.eval (fun _ => false) .gt e.1 (.str [65, 65]))) :=
  C02_index_exact none .gt (by decide) _ _ descS3

example : (∀ e ∈ [((.str [65, 66] : Val), 0), (.str [65, 66], 1), (.str [65, 65], 2)].take
              (insertionIndex [((.str [65, 66] : Val), 0), (.str [65, 66], 1), (.str [65, 65], 2)] (.str [65, 66])),
            Val.lt e.1 (.str [65, 66]) = false) ∧
    (∀ e ∈ [((.str [65, 66] : Val), 0), (.str [65, 66], 1), (.str [65, 65], 2)].drop
              (insertionIndex [((.str [65, 66] : Val), 0), (.str [65, 66], 1), (.str [65, 65], 2)] (.str [65, 66])),
            Val.lt e.1 (.str [65, 66]) = true) :=
  C02_bisection _ _ descS3

example : Desc (FIdx.constrain [((.str [65, 66] : Val), 0), (.str [65, 66], 1), (.str [65, 65], 2)] sN.fields) ∧
    (FIdx.constrain [((.str [65, 66] : Val), 0), (.str [65, 66], 1), (.str [65, 65], 2)] sN.fields).Perm
      ([((.str [65, 66] : Val), 0), (.str [65, 66], 1), (.str [65, 65], 2)].filter (fun e => sN.fields.any (fun f => f.2 == e.2))) :=
  C02_and_constrain _ sN.fields (by decide) (by decide)

example : (Coll.searchOr E c2 sN "S" (some .eq) (Leaf.v (.str [97, 98]))).2.fields =
      (Coll.search E c2 "S" (some .eq) (Leaf.v (.str [97, 98])) none).2.fields ++
        sN.fields.filter (fun f => !((Coll.search E c2 "S" (some .eq) (Leaf.v (.str [97, 98])) none).2.fields.any (fun g => g.2 == f.2))) :=
  C02_or_union E c2 sN "S" (some .eq) _ rfl

example : (sN.expects true 3).err = some Err.unexpectedN := C02_expects_class sN true 3 rfl (by decide)

example : (sN.expects false 2).err = none ↔ (sN.fields.length = 2 ∨ (false = true ∧ sN.fields.length = 0)) :=
  C02_expects_iff sN false 2 rfl

/-! ### C03 -/

/-- a different object carrying the unique value N = 10 already stored for object 1 -/
def twin : Obj := { uuid := 9, shape := "t", vals := [.v (.i64 10), .v (.str [90]), .v (.u64 0), .opaque "true"] }
theorem twin_typed : twin.Typed l2.index := by decide

theorem twin_conflict : ∃ fi ∈ l2.index.fields, fi.cons.unique = true ∧
    ∃ e ∈ fi.idx, twin.field fi.pos = .v e.1 ∧ l2.index.uuidOf e.2 ≠ some twin.uuid :=
  ⟨_, memN, rfl, (.i64 10, 0), List.mem_cons_of_mem _ List.mem_cons_self, rfl, by decide +kernel⟩

theorem twin_rejected : l2.index.insertOrUpdate twin = .err .unique :=
  (C03_reject_iff wf2 twin_typed).mpr twin_conflict

example : (fN [(.i64 20, 1), (.i64 10, 0)]).idx.Pairwise (fun a b => a.1 ≠ b.1) :=
  C03_unique_invariant wf2 memN rfl

example : ix3.WF := C03_preserved_by_insert wf2 typed3 iou3
example : (l2.index.deleteByUUID 1).WF := C03_preserved_by_delete wf2 1
example : l2.index.reload.WF := C03_preserved_by_reopen wf2
example : (∃ ix', l2.index.insertOrUpdate o3s = .ok ix') ∨ l2.index.insertOrUpdate o3s = .err .unique :=
  C03_accept_or_unique wf2 typed3
example : ∀ p ∈ l2.index.reload.ids, p.1 < l2.index.reload.next := C03_reload_next_above wf2

/-! ### C04 -/

example : ∃ l', c2.reopen.schema = ({ c2.reopen with mem := some l' }, Res.ok l') ∧ l'.index = l2.index.reload ∧
      l'.settings = l2.settings ∧ l'.descs = l2.descs ∧ Inv' { c2.reopen with mem := some l' } l' ∧
      ({ c2.reopen with mem := some l' } : Coll).view = c2.view :=
  C04_reopen inv2 synced2 shape2 rfl

example : ∃ l', Inv' (Coll.insert E c2 o3 3).fst l' ∧ Synced (Coll.insert E c2 o3 3).fst l' :=
  C04_sync_insert_commits inv2 synced2 rfl o3 3 typed3s ins3_ok

example : (c2.delete 1).snd = Res.ok () ∧ ∃ l', Inv' (c2.delete 1).fst l' ∧ Synced (c2.delete 1).fst l' :=
  C04_sync_delete_commits inv2 synced2 1

/-- any mode: the asynchronous collection with its pending object -/
example : (ca.close.fst.pending = [] ∧ ca.close.fst.disk.schema = some la1.img ∧ ca.close.snd = Res.ok ()) ∧
    ∃ l', Inv' { ca.close.fst.reopen with mem := some l' } l' ∧
      ({ ca.close.fst.reopen with mem := some l' } : Coll).view = ca.view :=
  C04_close_then_reopen inva pendNodup_a shapea

example : ∀ p ∈ l2.index.reload.ids, p.fst < l2.index.reload.next := C04_ids_not_reused wf2

-- the decimal reader: 0.1 = 0x3FB999999999999A is accepted for exactly that key, its neighbours are rejected
theorem key01 : Codec.decIsKey ⟨false, 1, -1⟩ 4591870180066957722 = true := by decide +kernel
example : Codec.decIsKey ⟨false, 1, -1⟩ 4591870180066957722 = true := key01
example : Codec.decIsKey ⟨false, 1, -1⟩ 4591870180066957723 = false := by decide +kernel
example : Codec.decIsKey ⟨false, 1, -1⟩ 4591870180066957721 = false := by decide +kernel
example : ¬ (Codec.decIsKey ⟨false, 1, -1⟩ 4591870180066957722 = true ∧
    Codec.decIsKey ⟨false, 1, -1⟩ (4591870180066957722 + 1) = true) :=
  C04_decimal_adjacent_excl _ _ (by decide) (by decide)
-- 1<<60 = 0x43B0000000000000 (key 1083·2^52), text "1152921504606846976"
example : Codec.decIsKey ⟨false, (2 ^ 52 + 4877398396442247168 % 2 ^ 52) * 2 ^ 8, 0⟩ ((4877398396442247168 : Nat) : Int) = true :=
  C04_decimal_exact_int_accepted 4877398396442247168 8 (by decide) (by decide)
example : (2 ^ 52 + 4877398396442247168 % 2 ^ 52) * 2 ^ 8 = 1152921504606846976 := by decide
theorem text60 : "1152921504606846976".toList ≠ [] ∧ (∀ c ∈ "1152921504606846976".toList, c.isDigit = true) ∧
    Codec.digitsVal "1152921504606846976".toList = some 1152921504606846976 :=
  of_chars (p := fun l => l ≠ [] ∧ (∀ c ∈ l, c.isDigit = true) ∧ Codec.digitsVal l = some 1152921504606846976) rfl
    (by decide +kernel)
example : Codec.digitsVal ("1152921504606846976".toList) = some 1152921504606846976 := text60.2.2
example : Codec.digitsVal ("12a".toList) = none := by decide +kernel
-- 0.5 = 0x3FE0000000000000 (key 1022·2^52): e = 1022, k = 53, text 2^52·5^53 e-53
example : Codec.decIsKey ⟨false, (if 4602678819172646912 / 2 ^ 52 = 0 then 4602678819172646912 % 2 ^ 52
    else 2 ^ 52 + 4602678819172646912 % 2 ^ 52) * 5 ^ 53, -((53 : Nat) : Int)⟩ ((4602678819172646912 : Nat) : Int) = true :=
  C04_decimal_exact_frac_accepted 4602678819172646912 53 (by decide) (by decide) (by decide)
example : Codec.decIsKey ⟨false, 5, -1⟩ 4602678819172646912 = true := by decide +kernel
example : ∀ k', Codec.decIsKey ⟨false, 1, -1⟩ k' = true → (4591870180066957722 : Int) = k' :=
  fun k' h' => C04_decimal_functional _ _ k' key01 h'
example : Codec.valueIs (.num "1152921504606846976") (.i64 1152921504606846976) = true := by decide +kernel
example : ∀ w, Codec.Val.tag (.i64 7) = Codec.Val.tag w → Codec.valueIs (.num "7") w = true → Val.i64 7 = w :=
  fun w ht h' => C04_schema_value_exact (.num "7") _ w ht (by decide +kernel) h'
-- the hypothesis of C04_schema_entries_count, evaluated (`checkEntries` goes through `Array.qsort`, which the
-- kernel does not unfold)
#guard (match Codec.checkEntries "A" [(1, 10)] [(1, 10)] 5 0 [.arr [.num "7", .num "1"]] [(.i64 7, 1)] with | .ok () => true | _ => false)
#guard (match Codec.checkEntries "A" [(1, 10)] [(1, 10)] 5 0 [] [(.i64 7, 1)] with | .ok () => false | _ => true)
example : Codec.valueIs (.num (String.ofList "1152921504606846976".toList)) (.f64 ((4877398396442247168 : Nat) : Int)) = true :=
  C04_schema_exact_int_text_accepted _ 4877398396442247168 8 text60.1 text60.2.1 text60.2.2 (by decide) (by decide)
-- hypotheses of C04_schema_constraints_exact / C04_schema_keys_closed are met (and can fail): evaluated, tests
#guard (match Codec.checkCons (some (.obj [(Codec.sbytes "index", .bool true), (Codec.sbytes "unique", .bool true)])) { index := true, unique := true } "f" with | .ok () => true | _ => false)
#guard (match Codec.checkCons (some (.obj [(Codec.sbytes "index", .bool true)])) { index := true, unique := true } "f" with | .ok () => false | _ => true)
#guard (match Codec.keysWithin (.obj [(Codec.sbytes "indexx", .bool true)]) ["index", "unique", "upper", "lower"] "f" with | .ok () => false | _ => true)
example : Codec.decIsKey ⟨true, 1, -1⟩ (-4591870180066957722) = true := by decide +kernel

/-! ### C05 -/

example : ∃ ix', l2.index.insertOrUpdate (storedObj E l2 o3 3) = Res.ok ix' ∧
      (Coll.insert E c2 o3 3).fst.log = c2.log ++ [FsOp.writeObj (storedObj E l2 o3 3), FsOp.writeSchema ({ l2 with index := ix' } : Loaded).img] :=
  C05_insert_ops inv2 synced2 rfl o3 3 typed3s ins3_ok

example : ∃ delta, (Coll.insert E c2 o3 3).fst.log = c2.log ++ delta ∧
      ∀ j, Detected c2.live (c2.disk.applyAll (delta.take j)) ∨ Consistent c2.live (c2.disk.applyAll (delta.take j)) :=
  C05_partial_insert_new inv2 synced2 shape2 rfl o3 3 typed3s ins3_ok (by rw [stored3]; decide)

example : ∃ delta, (c2.delete 1).fst.log = c2.log ++ delta ∧
      ∀ j, Detected c2.live (c2.disk.applyAll (delta.take j)) ∨ Consistent c2.live (c2.disk.applyAll (delta.take j)) :=
  C05_partial_delete inv2 synced2 shape2 1 (by decide)

/-- an UPDATE of object 1 that changes no indexed value (other case of S, other F, B and shape) -/
def o1u : Obj := { uuid := 1, shape := "p2", vals := [.v (.i64 10), .v (.str [97, 66]), .v (.u64 8), .opaque "false"] }
def o1us : Obj := { uuid := 1, shape := "p2", vals := [.v (.i64 10), .v (.str [65, 66]), .v (.u64 8), .opaque "false"] }
theorem stored1u : storedObj E l2 o1u 55 = o1us := by rfl
theorem typed1u : (storedObj E l2 o1u 55).Typed l2.index := by decide
theorem upd_ok : (Coll.insert E c2 o1u 55).2 = .ok () :=
  insert_ok_of inv2_weak o1u 55 (by decide +kernel) (by rw [stored1u]; decide +kernel)
    (by rw [stored1u]; decide +kernel)

example : ∃ delta, (Coll.insert E c2 o1u 55).fst.log = c2.log ++ delta ∧ delta.length = 2 ∧
      Consistent c2.live (c2.disk.applyAll (delta.take 0)) ∧ Consistent c2.live (c2.disk.applyAll (delta.take 1)) ∧
      Consistent c2.live (c2.disk.applyAll (delta.take 2)) :=
  C05_partial_update_same_keys inv2 synced2 shape2 rfl o1u 55 typed1u upd_ok
    (by rw [stored1u]; decide)
    (by
      rw [stored1u]
      intro old hold
      rcases view2_some hold with ⟨h, _⟩ | ⟨_, rfl⟩
      · cases h
      · decide +kernel)

example : (c2.repair.fst.disk = c2.disk ∧ c2.repair.fst.log = c2.log) := C05_repair_no_fs c2

/-! ### C06 -/

theorem stored_twin : storedObj E l2 twin 9 = twin := by rfl
theorem twin_insert : Coll.insert E c2 twin 9 = (c2, .err .unique) := by
  rw [insert_valid_eq inv2_weak twin 9 (by decide +kernel)]
  rw [stored_twin]
  rw [(C06_reject_classes true).2 (by decide +kernel) ((satisfyAll_unique_iff wf2 twin_typed).mpr twin_conflict)]

example : (Coll.insert E c2 twin 9).fst = c2 :=
  C06_insert_rejected_frame inv2_weak twin 9
    (show Obj.Typed l2.index (storedObj E l2 twin 9) from stored_twin.symm ▸ twin_typed) .unique (by rw [twin_insert])

/-- an object the Validate hook refuses, and a fourth good object -/
def bad : Obj := { uuid := 7, shape := "bad", vals := [.v (.i64 30), .v (.str [120]), .v (.u64 0), .opaque "true"] }
def o4 : Obj := { uuid := 4, shape := "s", vals := [.v (.i64 25), .v (.str [122, 122]), .v (.u64 1), .opaque "false"] }
def o4s : Obj := { uuid := 4, shape := "s", vals := [.v (.i64 25), .v (.str [90, 90]), .v (.u64 1), .opaque "false"] }

theorem sameShape2 : SameShape (ObjIndex.new l2.descs) l2.index :=
  ((insertOrUpdate_shape step2.iou).trans (insertOrUpdate_shape step1.iou)).symm

theorem batch_typed : ∀ o ∈ [bad, o4], Obj.Typed l2.index (vald E l2.descs o) := by decide +kernel

theorem batch_refused : Coll.many E c2 [bad, o4] none = (c2, 0, .err .invalid) :=
  many_checked_err inv2_weak [bad, o4] none .invalid (List.cons_ne_nil _ _) nofun (by decide +kernel)

example : Coll.many E c2 [bad, o4] none = (c2, 0, Res.err .invalid) :=
  C06_many_rejected_frame inv2 [bad, o4] none batch_typed sameShape2 .invalid (by rw [batch_refused])

example : (E.serialisable o3s = false → Coll.insertCore E c2 l2 o3s true = (c2, Res.err Err.other)) ∧
    (E.serialisable twin = true → l2.index.satisfyAll twin = Res.err Err.unique →
       Coll.insertCore E c2 l2 twin true = (c2, Res.err Err.unique)) :=
  ⟨(C06_reject_classes true).1, (C06_reject_classes true).2⟩

/-! ### C07 -/

theorem batch34_typed : ∀ o ∈ [o3, o4], Obj.Typed l2.index (vald E l2.descs o) := by decide +kernel

example : (∃ e, Coll.many E c2 [o3, o4] none = (c2, 0, Res.err e)) ∨
      ∃ c' l', Coll.many E c2 [o3, o4] none = (c', [o3, o4].length, Res.ok ()) ∧ Inv' c' l' ∧
        c'.view = List.foldl (fun v o => updView v o.uuid (some o)) c2.view (validated E l2.descs [o3, o4]) ∧
        l'.settings = l2.settings ∧ l'.descs = l2.descs ∧ SameShape l'.index l2.index :=
  C07_many_atomic inv2 [o3, o4] none batch34_typed sameShape2

theorem upos2 {p : Nat} (h : UPos l2.index p) : p = 0 := by
  obtain ⟨fi, hfi, rfl, hu⟩ := h
  exact (by decide +kernel : ∀ fi ∈ l2.index.fields, fi.cons.unique = true → fi.pos = 0) fi hfi hu

example : ∃ c' l', Coll.manyInsert E c2 l2 [o3s, o4s] 0 = (c', l', [o3s, o4s].length, none) ∧ Inv' c' l' ∧
      c'.view = List.foldl (fun v o => updView v o.uuid (some o)) c2.view [o3s, o4s] :=
  C07_validated_cannot_fail inv2 [o3s, o4s]
    (by decide +kernel) (by decide +kernel) (by decide +kernel)
    -- the two differ on the one unique field, N
    (noIntra_of_pairwise _ _ (fun _ _ h => nomatch h) <| List.pairwise_pair.mpr fun _ p hp => by
      cases upos2 hp
      decide)

example : ∃ done rest c' l' r, chunks 2 [o3, o4, bad] = done ++ rest ∧ done.flatten ++ rest.flatten = [o3, o4, bad] ∧
      Coll.bulk E c2 [o3, o4, bad] 2 = (c', done.flatten.length, r) ∧ Inv' c' l' ∧
      c'.view = List.foldl (fun v o => updView v o.uuid (some o)) c2.view (validated E l2.descs done.flatten) ∧
      (rest = [] ∧ r = Res.ok () ∨ ∃ ch rest' e, rest = ch :: rest' ∧ r = Res.err e ∧ Coll.many E c' ch = (c', 0, Res.err e)) :=
  C07_bulk inv2 [o3, o4, bad] 2 (by decide +kernel) sameShape2

example : (chunks 2 [o3, o4, bad]).flatten = [o3, o4, bad] ∧
    ∃ init last, chunks 2 [o3, o4, bad] = init ++ [last] ∧ (∀ ch ∈ init, ch.length = 2) ∧ last.length < 2 :=
  C07_chunks 2 (by decide) [o3, o4, bad]

/-! ### C08 / C09 : the lock machine -/

section Locks
open Sod.Lock

/-- two concurrent calls, with the lock paths the extractor reports for them:
    thread 0 = `DB.AssignIndex` (reader of DB.l, then DB.sl), thread 1 = `DB.Commit` (writer of DB.l, then DB.sl) -/
def pathAssignIndex : List Act := [.acq (0, 0) .R, .acq (3, 0) .W, .rel (3, 0) .W, .rel (0, 0) .R]
def pathCommit : List Act := [.acq (0, 0) .W, .acq (3, 0) .W, .rel (3, 0) .W, .rel (0, 0) .W]
def thA : Thread := { todo := pathAssignIndex }
def thC : Thread := { todo := pathCommit }
def lk0 : State := [thA, thC]

theorem covers_A : ∃ e ∈ Generated.Locks.entries, e.covers pathAssignIndex := by
  refine ⟨_, List.getElem_mem (l := Generated.Locks.entries) (n := 2) (by decide +kernel), ?_⟩
  unfold EntryFacts.covers
  decide +kernel
theorem covers_C : ∃ e ∈ Generated.Locks.entries, e.covers pathCommit := by
  refine ⟨_, List.getElem_mem (l := Generated.Locks.entries) (n := 4) (by decide +kernel), ?_⟩
  unfold EntryFacts.covers
  decide +kernel

theorem lk0_initial : Initial lk0 :=
  C09_entries_initial lk0 (by
    intro t ht
    simp only [lk0, List.mem_cons, List.mem_nil_iff, or_false] at ht
    rcases ht with rfl | rfl
    · exact ⟨rfl, rfl, covers_A⟩
    · exact ⟨rfl, rfl, covers_C⟩)

def thC1 : Thread := { todo := [.acq (3, 0) .W, .rel (3, 0) .W, .rel (0, 0) .W], held := [((0, 0), .W)], pend := false }
def lk1 : State := [thA, thC1]

theorem lk1_reach : Lock.Reach lk0 lk1 :=
  Lock.Reach.step lk0 lk1 Lock.Reach.init <| PStep.grantW lk0 1 thC (0, 0) _ rfl rfl (by
    intro j u hj hu
    rcases List.getElem?_pair hu with ⟨_, rfl⟩ | ⟨h1, _⟩
    · rintro ⟨m, hm⟩; cases hm
    · exact absurd h1 hj)

example : ¬ holds thA (0, 0) :=
  C08_mutex lk0_initial lk1_reach 1 0 thC1 thA (0, 0) (by decide) rfl rfl List.mem_cons_self

/-- the writer is inside an access "write DB.schemas under DB.l(W)"; no other thread can be inside the
    conflicting access "read DB.schemas under DB.l(R), DB.sl(W)" (the last hypothesis of `C08_race_free` is the
    one refuted) -/
example : ¬ (∀ c m, (c, m) ∈ ([(0, Mode.R), (3, Mode.W)] : List (Nat × Mode)) → ((c, (fun _ => 0) c), m) ∈ thA.held) :=
  fun hub =>
    C08_race_free lk0_initial lk1_reach
      { entry := 0, region := 0, write := true, held := [(0, .W)] }
      { entry := 0, region := 0, write := false, held := [(0, .R), (3, .W)] }
      (by decide +kernel) (by decide +kernel) (by decide +kernel) 1 0 thC1 thA (by decide) rfl rfl (fun _ => 0)
      (fun c m h => by
        cases List.mem_singleton.mp h
        exact List.mem_cons_self)
      hub

example : ∃ s', GStep lk1 s' :=
  C09_no_deadlock lk0_initial lk1_reach ⟨thA, List.mem_cons_self, List.cons_ne_nil _ _⟩

example : ∃ s', GStar lk1 s' ∧ ∀ t ∈ s', t.todo = [] :=
  C09_all_return lk1 (tok_reach lk0_initial lk1_reach)

example : Disc [] pathCommit :=
  let ⟨e, he, hc⟩ := covers_C
  C09_paths_disciplined e he _ hc

end Locks

/-! ### C08 : linearizability of one-section calls -/

section Linearize
open Sod.Lin

def addCall : Lin.Call Nat Nat Nat :=
  { mode := .w, init := 0, steps := [.read (fun σ _ => σ + 5), .write (fun _ l => l)], result := fun l => l }
def getCall : Lin.Call Nat Nat Nat :=
  { mode := .r, init := 0, steps := [.read (fun σ _ => σ)], result := fun l => l }
def progs : List (List (Lin.Call Nat Nat Nat)) := [[addCall], [getCall]]

theorem progs_wf : ∀ p ∈ progs, ∀ c ∈ p, c.WF := by
  intro p hp c hc
  rcases List.mem_cons.mp hp with rfl | hp
  · cases List.mem_singleton.mp hc
    exact fun h => nomatch h
  · cases List.mem_singleton.mp hp
    cases List.mem_singleton.mp hc
    exact fun _ m hm => ⟨_, List.mem_singleton.mp hm⟩

def linFinal : Lin.State Nat Nat Nat :=
  { σ := 6
    threads := [{ todo := [], cur := none, pc := 1 }, { todo := [], cur := none, pc := 1 }]
    hist := [.acq (0, 0), .rel (0, 0) 6, .acq (1, 0), .rel (1, 0) 6] }

theorem lin_run : Lin.Steps (Lin.initial 1 progs) linFinal := by
  have s1 := Lin.Step.acquire (Lin.initial 1 progs) 0 _ addCall [] rfl rfl rfl
    (grantable_of_idle rfl _ _)
  have s2 := Lin.Step.micro _ 0 _ addCall 0 _ _ rfl rfl |> Lin.Steps.tail (Lin.Steps.tail (Lin.Steps.refl _) s1)
  have s3 := Lin.Step.micro _ 0 _ addCall _ _ _ rfl rfl |> Lin.Steps.tail s2
  have s4 := Lin.Step.release _ 0 _ addCall _ rfl rfl |> Lin.Steps.tail s3
  have s5 := Lin.Step.acquire _ 1 _ getCall [] rfl rfl rfl
    (grantable_of_idle rfl _ _) |> Lin.Steps.tail s4
  have s6 := Lin.Step.micro _ 1 _ getCall 0 _ _ rfl rfl |> Lin.Steps.tail s5
  have s7 := Lin.Step.release _ 1 _ getCall _ rfl rfl |> Lin.Steps.tail s6
  exact s7

theorem lin_finished : Lin.finished linFinal := by
  intro t ht
  simp only [linFinal, List.mem_cons, List.mem_nil_iff, or_false] at ht
  rcases ht with rfl | rfl <;> exact ⟨rfl, rfl⟩

example : (Lin.runSeq progs (Lin.acqOrder linFinal.hist) 1).1 = linFinal.σ ∧
    (∀ id res, Lin.Event.rel id res ∈ linFinal.hist → (id, res) ∈ (Lin.runSeq progs (Lin.acqOrder linFinal.hist) 1).2) ∧
    (Lin.acqOrder linFinal.hist).Nodup :=
  let h := C08_linearizable 1 progs progs_wf linFinal lin_run lin_finished
  ⟨h.1, h.2.1, h.2.2.1⟩

example : ∀ id ∈ Lin.acqOrder linFinal.hist, ∃ res, Lin.Event.rel id res ∈ linFinal.hist :=
  C08_all_returned 1 progs progs_wf linFinal lin_run lin_finished

end Linearize

/-! ### C10 -/

theorem reach_a : Sod.Reach ca0 ca.tick :=
  Sod.Reach.step (c := ca) (l := la1) .tick (reach_insert .refl inva0.mem typed_a0 stepa.eq) inva.mem trivial

example : ∃ l, Inv' ca.tick l ∧ l.settings.async = some ⟨2, 3⟩ ∧ l.flusher = true ∧
      (ca.tick.pending.length ≥ 2 → Flushed ca.tick.view l.img ca.tick.tick) ∧
      Flushed ca.tick.view l.img (ticks (3 + 1) ca.tick) ∧
      Flushed ca.tick.view l.img ca.tick.close.fst ∧
      ∀ u, (ca.tick.delete u).fst.pending.get? u = none ∧ (ca.tick.delete u).fst.disk.files.get? u = none :=
  C10_every_run inva0 pendNodup_a0 rfl reach_a

example : ((Coll.insert E ca0 o1 101).fst.get (assignNew (E.canon la0.descs (E.transform o1)) 101).uuid).snd =
        Res.ok (assignNew (E.canon la0.descs (E.transform o1)) 101) ∧
    ((Coll.insert E ca0 o1 101).fst.exist (assignNew (E.canon la0.descs (E.transform o1)) 101).uuid).snd = Res.ok true :=
  C10_visible inva0 o1 101 typed_a0 insa_ok

example : (ca.flushAll.pending = [] ∧ ∀ u, ca.flushAll.disk.files.get? u = ca.view u) ∧
    (ca.flushAllAndCommit.fst.pending = [] ∧ ca.flushAllAndCommit.fst.disk.schema = some la1.img ∧
      ∀ u, ca.flushAllAndCommit.fst.disk.files.get? u = ca.view u) :=
  C10_flush_complete inva pendNodup_a

example : (ticks 4 (ca.delete 1).fst).disk.files.get? 1 = none ∧
    (ticks 4 (ca.delete 1).fst).flushAll.disk.files.get? 1 = none ∧
    (ticks 4 (ca.delete 1).fst).close.fst.disk.files.get? 1 = none ∧
    (ticks 4 (ca.delete 1).fst).flushAllAndCommit.fst.disk.files.get? 1 = none :=
  C10_deleted_never_written inva pendNodup_a 1 4

example : ∀ op ∈ List.drop ca.log.length ca.flushAll.log, ∀ o, op = FsOp.writeObj o → ca.pending.get? o.uuid = some o :=
  fun op hop o ho => C10_flusher_writes_only_pending inva.keyedP pendNodup_a op hop o ho

example : la0.flusher = true :=
  C10_flusher_started (c := (cE.create descs2 sta).1) (l := la0) (by rw [createa]; rfl) rfl

/-! ### C11 -/

example : controlLoaded c2.live c2.disk l2 = Res.ok () := C11_no_false_positive inv2 pending2 shape2

theorem files2_view (u : Nat) : c2.disk.files.get? u = c2.view u := (view_nopend pending2 u).symm

theorem agree2 : Agree l2.index c2.disk.files :=
  Agree.of_reflects (reflects2.congr fun u _ => (files2_view u).symm)

example : (c2.repair.snd = Res.ok () ∧ ∃ l', c2.repair.fst.mem = some l' ∧ l'.index.WF ∧
        (∀ u, u ∈ l'.index.uuids ↔ c2.disk.files.has u = true) ∧ (Reflects l'.index fun u => c2.disk.files.get? u) ∧
        (ShapeOk c2 l2 → c2.repair.fst.control = Res.ok ())) ∨
    c2.repair.snd = Res.err Err.unique :=
  C11_repair_converges (l := l2) (by rw [schema2]; exact mem2) wf2 agree2
    (fun u o h => (inv2.typed u o ((files2_view u).symm.trans h)).1)
    inv2.keyedF
    (fun u o h => by rw [inv2.cacheOff rfl] at h; cases h)

def cT : Coll := { c2 with disk := { c2.disk with files := c2.disk.files.erase 1 } }

/-- stated for a variable collection: comparing `cT` with `c2` directly makes the kernel run the model -/
theorem tamper_proj {c c' : Coll} {fs : OMap} (h : c' = { c with disk := { c.disk with files := fs } }) :
    c'.live = c.live ∧ c'.mem = c.mem ∧ c'.cache = c.cache ∧ c'.disk.files = fs := by
  subst h; exact ⟨rfl, rfl, rfl, rfl⟩
theorem cT_proj : cT.live = c2.live ∧ cT.mem = c2.mem ∧ cT.cache = c2.cache ∧ cT.disk.files = c2.disk.files.erase 1 :=
  tamper_proj rfl

example : controlLoaded cT.live cT.disk l2 = Res.err Err.corrupted :=
  (C11_corrupted_iff cT.live cT.disk l2).mpr ⟨by rw [cT_proj.1]; exact shape2, fun h => by
    have := h.2.2 1 (by decide)
    rw [cT_proj.2.2.2, OMap.has_erase] at this
    simp at this⟩

example : (cT.repair.snd = Res.ok () ∧ ∃ l', cT.repair.fst.mem = some l' ∧ l'.index.WF ∧
        (∀ u, u ∈ l'.index.uuids ↔ cT.disk.files.has u = true) ∧ (Reflects l'.index fun u => cT.disk.files.get? u) ∧
        (ShapeOk cT l2 → cT.repair.fst.control = Res.ok ())) ∨
    cT.repair.snd = Res.err Err.unique :=
  have hget : ∀ u o, cT.disk.files.get? u = some o → c2.view u = some o := by
    intro u o h
    rw [cT_proj.2.2.2, OMap.get?_erase] at h
    split at h
    · cases h
    · exact (files2_view u).symm.trans h
  have hm : cT.mem = some l2 := cT_proj.2.1.trans mem2
  C11_repair_converges (c := cT) (l := l2)
    (by rw [schema_of_mem hm (startFlusher_sync rfl)]; exact hm)
    wf2 ⟨c2.view, reflects2, fun u _ => hget u⟩ (fun u o h => (inv2.typed u o (hget u o h)).1)
    (cT_proj.2.2.2 ▸ inv2.keyedF.erase 1)
    (fun u o h => by rw [cT_proj.2.2.1, inv2.cacheOff rfl] at h; cases h)

example : c2.repair.fst.disk = c2.disk ∧ c2.repair.fst.log = c2.log := C11_repair_no_fs c2

/-! ### C12 -/

theorem build_typed : CallsTyped E (emptyLoaded descs2 st2) [.ins o1 101, .ins o2 102, .get 1, .count, .all] := by
  decide +kernel

example : ObsListEq (Coll.run E (emptyColl descs2 st2) [.ins o1 101, .ins o2 102, .get 1, .count, .all]).snd
    (Coll.run E (emptyColl descs2 sta) [.ins o1 101, .ins o2 102, .get 1, .count, .all]).snd :=
  C12_config_independent descs2 st2 sta _ build_typed

example : c2.exist 1 = (c2, Res.ok (c2.view 1).isSome) := C12_exist inv2_weak 1
/-- also for the object whose asynchronous write is still pending -/
example : ca.exist 1 = (ca, Res.ok (ca.view 1).isSome) := C12_exist inva.toInv 1

/-! #### the same objects in a collection where S is NOT indexed -/

def dSu : FieldDesc := { path := "S", type := "string", cast := some .str, cons := { upper := true } }
def descsU : List FieldDesc := [dN, dSu, dF, dB]
def lu0 : Loaded := { descs := descsU, settings := st2, index := ObjIndex.new descsU }
def cu0 : Coll := (cE.create descsU st2).1
theorem createu : cE.create descsU st2 = (created live2 descsU st2, .ok ()) := create_first st2 (by decide +kernel)
theorem cu0_eq : cu0 = created live2 descsU st2 := by rw [cu0, createu]
theorem invu0 : Inv' cu0 lu0 := by rw [cu0_eq]; exact created_inv rfl

def ixu1 : ObjIndex := { next := 1, ids := [(0, 1)], fields := [fN [(.i64 10, 0)]] }
def ixu2 : ObjIndex := { next := 2, ids := [(0, 1), (1, 2)], fields := [fN [(.i64 20, 1), (.i64 10, 0)]] }
def lu1 : Loaded := { lu0 with index := ixu1 }
def lu2 : Loaded := { lu0 with index := ixu2 }
def cu1 : Coll := (Coll.insert E cu0 o1 101).1
def cu2 : Coll := (Coll.insert E cu1 o2 102).1

theorem stepu1 : Step cu0 lu0 o1 101 o1s ixu1 cu1 :=
  step invu0 o1 101 (by rfl) (by decide +kernel) (by rw [cu1])
theorem stepu2 : Step cu1 lu1 o2 102 o2s ixu2 cu2 :=
  step stepu1.inv o2 102 (by rfl) (by decide +kernel) (by rw [cu2])

theorem invu2 : Inv' cu2 lu2 := stepu2.inv
theorem viewu2 : cu2.view = c2.view := by
  rw [view2, stepu2.view, stepu1.view, cu0_eq]; rfl
theorem liveu2 : cu2.live = live2 := by rw [stepu2.live, stepu1.live, cu0_eq]; rfl
theorem resSu : pathResolvable cu2.live "S" = true := by
  rw [liveu2, ← live2_eq]
  exact resS
theorem fieldSu : lu2.index.field? "S" = none := by decide +kernel
theorem posSu : descPos? lu2.descs "S" = some (1, dSu) := by decide +kernel

example (u : Nat) :
    Denotes l2 (Coll.search E c2 "S" (some .le) (Leaf.v (.str [97, 98])) none).snd.fields u ↔
      Denotes lu2 (Coll.search E cu2 "S" (some .le) (Leaf.v (.str [97, 98])) none).snd.fields u :=
  C12_index_independent inv2 invu2 viewu2.symm fieldS fieldSu resS resSu prepS (by decide +kernel) rfl posSu rfl rfl
    (by decide) u

/-! ### C13 -/

theorem sN_resolves : ∀ e ∈ sN.fields, ∃ u, l2.index.uuidOf e.snd = some u := fun e he =>
  Option.isSome_iff_exists.mp ((by decide +kernel : ∀ e ∈ sN.fields, (l2.index.uuidOf e.snd).isSome = true) e he)

example : (c2.collect sN).snd.snd.fst =
        List.filterMap c2.view (List.take sN.limit (if sN.reverse = true then (sN.uuids l2).reverse else sN.uuids l2)) ∧
    (c2.collect sN).snd.snd.snd = none ∧
    (c2.collect sN).snd.snd.fst.length = min sN.limit sN.fields.length :=
  C13_collect inv2 sN rfl sN_resolves

example : ((c2.one sN).snd.snd = Res.err Err.noObject ↔ sN.fields = []) := C13_one inv2 sN rfl

example : c2.assignIndex "S" = (c2, Res.ok ((fS [(.str [65, 66], 0), (.str [65, 66], 1)]).idx.map (·.fst))) ∧
    List.Pairwise (fun a b => a.lt b = false) ((fS [(.str [65, 66], 0), (.str [65, 66], 1)]).idx.map (·.fst)) ∧
    ((fS [(.str [65, 66], 0), (.str [65, 66], 1)]).idx.map (·.fst)).length = l2.index.uuids.length ∧
    (∀ u o, c2.view u = some o → ∃ x ∈ (fS [(.str [65, 66], 0), (.str [65, 66], 1)]).idx.map (·.fst), o.field 1 = Leaf.v x) :=
  C13_assignIndex_coll inv2 fieldS

example : Desc (fS [(.str [65, 66], 0), (.str [65, 66], 1)]).idx ∧
    ((fS [(.str [65, 66], 0), (.str [65, 66], 1)]).idx.map (·.2)).Perm (l2.index.ids.map (·.1)) :=
  C13_assignIndex wf2 memS

example : ∃ r, ObjIndex.searchOp none .le [((.str [65, 66] : Val), 0), (.str [65, 66], 1), (.str [65, 65], 2)] (.str [65, 66]) = .ok r ∧
    r.Sublist [((.str [65, 66] : Val), 0), (.str [65, 66], 1), (.str [65, 65], 2)] ∧ Desc r :=
  C13_result_sorted none .le (by decide) _ _ descS3

example : Desc (FIdx.insert [((.str [65, 66] : Val), 0), (.str [65, 66], 1), (.str [65, 65], 2)] (.str [65, 66], 7)) ∧
    FIdx.insert [((.str [65, 66] : Val), 0), (.str [65, 66], 1), (.str [65, 65], 2)] (.str [65, 66], 7) =
      [((.str [65, 66] : Val), 0), (.str [65, 66], 1), (.str [65, 65], 2)].filter (fun x => !Val.lt x.1 (.str [65, 66])) ++
        (.str [65, 66], 7) :: [((.str [65, 66] : Val), 0), (.str [65, 66], 1), (.str [65, 65], 2)].filter (fun x => Val.lt x.1 (.str [65, 66])) :=
  C13_insert_sorted _ _ descS3

example : ([((.str [65, 66] : Val), 0), (.str [65, 66], 1), (.str [65, 65], 2)] : FIdx).reverse.Pairwise
    (fun a b => Val.lt b.1 a.1 = false) := C13_reverse _ descS3

/-- why `C13_limit` takes `Inv' c l` and speaks of the members of `c.view` (Findings, at the head of the file) -/
theorem old_C13_limit_hypothesis_only_nil (us : List Nat)
    (hall : ∀ c' : Coll, ∀ u ∈ us, ∃ o, (c'.get u).2 = .ok o) : us = [] := by
  cases us with
  | nil => rfl
  | cons u us =>
    obtain ⟨o, ho⟩ := hall { live := [] } u (List.mem_cons_self)
    have : (({ live := [] } : Coll).get u).2 = .err .notFound := rfl
    rw [this] at ho; cases ho

example : (Coll.collectLoop c2 [2, 1] 1 []).2.2.1 = [] ++ ([2, 1].take 1).filterMap c2.view ∧
    (Coll.collectLoop c2 [2, 1] 1 []).2.2.1.length = ([] : List Obj).length + min 1 ([2, 1] : List Nat).length ∧
    (Coll.collectLoop c2 [2, 1] 1 []).2.2.2 = none ∧
    (Coll.collectLoop c2 [2, 1] 1 []).2.1 = 1 - ([2, 1] : List Nat).length :=
  C13_limit inv2 [2, 1] 1 [] (by rw [view2]; decide)

/-! ### C14 : the clone model -/

section CloneW
open Sod.Clone

def val : V := .struct [(true, .ptr 3 (.prim 5)), (true, .slice 4 [.ptr 5 (.prim 1)]), (true, .prim 9)]
def st0 : Store := { objs := [], next := 10 }
def st1 : Store := st0.put 1 val

theorem val_unexpFree : tagsAll val = tagsExp val := by rfl
theorem val_tags : tagsAll val = [3, 4, 5] := by rfl

example : strip (clone 10 val).1 = strip val := C14_clone_equal 10 val
example : (∀ t ∈ tagsExp (clone 10 val).1, 10 ≤ t ∧ t < (clone 10 val).2) ∧ (tagsExp (clone 10 val).1).Nodup :=
  C14_clone_fresh 10 val

example : ∀ t ∈ tagsAll val, ∀ w, ((st0.put 1 val).mutate t w).objs.find? (fun p => p.1 == 1) =
      (st0.put 1 val).objs.find? (fun p => p.1 == 1) :=
  C14_put_isolated st0 1 val val_unexpFree (by rw [val_tags]; decide)

theorem st1_fresh : st1.Fresh := put_fresh st0 (fun p hp => by cases hp) 1 val val_unexpFree
theorem st1_unexp : ∀ p ∈ st1.objs, tagsAll p.2 = tagsExp p.2 :=
  put_unexpFree st0 (fun p hp => by cases hp) 1 val val_unexpFree

def rdVal : V := .struct [(true, .ptr 13 (.prim 5)), (true, .slice 14 [.ptr 15 (.prim 1)]), (true, .prim 9)]
def st2' : Store := { st1 with next := 16 }
theorem rd1_eq : st1.get 1 = (some rdVal, st2') := by rfl
def rdVal' : V := .struct [(true, .ptr 16 (.prim 5)), (true, .slice 17 [.ptr 18 (.prim 1)]), (true, .prim 9)]
theorem rd2_eq : st2'.get 1 = (some rdVal', { st1 with next := 19 }) := by rfl

example : ∀ t ∈ tagsAll rdVal, ∀ w, (st2'.mutate t w).objs = st2'.objs :=
  C14_get_isolated st1 st1_fresh 1 rdVal st2' rd1_eq st1_unexp

example : ∀ t ∈ tagsAll rdVal, t ∉ tagsAll rdVal' :=
  C14_two_reads_disjoint st1 1 rdVal rdVal' st2' _ st1_unexp rd1_eq rd2_eq

example : ((st0.put 1 val).get 1).1.map strip = some (strip val) := C14_roundtrip st0 1 val

end CloneW

/-! ### C15 -/

example : Coll.insert E c2 bad 7 = (c2, Res.err Err.invalid) :=
  C15_invalid_invisible inv2_weak bad 7 (by decide +kernel)

example : ∃ l', Inv' (Coll.insert E c2 o3 3).fst l' ∧
      (Coll.insert E c2 o3 3).fst.view =
        updView c2.view (assignNew (E.canon l2.descs (E.transform o3)) 3).uuid (some (assignNew (E.canon l2.descs (E.transform o3)) 3)) ∧
      E.validate (E.canon l2.descs (E.transform o3)) = true :=
  C15_stored_is_transformed inv2 o3 3 typed3s ins3_ok

theorem validate_o4 : manyValidate E l2 (ObjIndex.new l2.descs) [o4] = .ok [o4s] := by
  decide +kernel

example : [o4s] = List.map (fun o => E.canon l2.descs (E.transform o)) [o4] ∧
      ∀ o ∈ [o4s], E.validate o = true ∧ E.serialisable o = true ∧ l2.index.satisfyAll o = Res.ok () :=
  C15_batch_order validate_o4

/-! ### C16 -/

example : E.canon descs2 (E.canon descs2 o1) = E.canon descs2 o1 := C16_canon_idem E caseLaws descs2 o1
example : E.canonBytes dS.cons (E.canonBytes dS.cons [97, 66, 33]) = E.canonBytes dS.cons [97, 66, 33] :=
  C16_canonBytes_idem E caseLaws dS.cons [97, 66, 33]

example : ∃ o', (Coll.insert E c2 o3 3).fst.view o'.uuid = some o' ∧ E.canon l2.descs o' = o' ∧
      ∀ (i : Nat) (hi : i < l2.descs.length), o'.field i = E.canonLeaf l2.descs[i].cons ((E.transform o3).field i) :=
  C16_stored_canonical caseLaws inv2 o3 3 typed3s ins3_ok

example : E.prepare descs2 "S" (Leaf.v (Val.str [97, 98])) =
      Leaf.v (Val.str (if dS.cons.transformer = true then E.canonBytes dS.cons [97, 98] else [97, 98])) :=
  C16_probe_canonical E descs2 "S" 1 dS [97, 98] posS

example : Coll.search E c2 "S" (some .eq) (Leaf.v (Val.str [97, 98])) none =
    Coll.search E c2 "S" (some .eq) (Leaf.v (Val.str [65, 98])) none :=
  C16_search_case_insensitive E c2 l2 "S" (some .eq) [97, 98] [65, 98] none 1 dS schema2 posS rfl (by decide +kernel)

example : (Cons.ofTags ["upper", "index"]).index = (["upper", "index"].contains "index" || ["upper", "index"].contains "unique") ∧
    (Cons.ofTags ["upper", "index"]).unique = ["upper", "index"].contains "unique" ∧
    (Cons.ofTags ["upper", "index"]).upper = ["upper", "index"].contains "upper" ∧
    (Cons.ofTags ["upper", "index"]).lower = ["upper", "index"].contains "lower" := C16_tags_spec _

example : Cons.ofTags ["upper", "index"] = Cons.ofTags ["index", "upper"] :=
  C16_tags_order_independent (List.Perm.swap _ _ _)

/-! ### C17 -/

def cR : Coll := { c2.reopen with live := [("N", "int32"), ("S", "string"), ("F", "uint32"), ("B", "bool")] }

/-- for a variable collection, as `tamper_proj` -/
theorem reopened_proj {c c' : Coll} {lv : List (String × String)} (h : c' = { c.reopen with live := lv }) :
    c'.mem = none ∧ c'.disk = c.disk ∧ c'.live = lv := by
  subst h; exact ⟨rfl, rfl, rfl⟩
theorem cR_proj : cR.mem = none ∧ cR.disk = c2.disk ∧
    cR.live = [("N", "int32"), ("S", "string"), ("F", "uint32"), ("B", "bool")] := reopened_proj rfl

example : (∀ u, cR.get u = (cR, Res.err Err.structChanged)) ∧ cR.count = (cR, Res.err Err.structChanged) ∧
    (∀ (E : Env) (o : Obj) (fresh : Nat), Coll.insert E cR o fresh = (cR, Res.err Err.structChanged)) ∧
    (∀ u, cR.delete u = (cR, Res.err Err.structChanged)) ∧
    (∀ (E : Env) (os : List Obj) (w : Option (Nat × Bool)), (Coll.many E cR os w).fst = cR) ∧
    (∀ descs st, cR.create descs st = (cR, Res.err Err.structChanged)) ∧ cR.repair = (cR, Res.err Err.structChanged) ∧
    (∀ (E : Env) f op p k, Coll.search E cR f op p k = (cR, Search.failed Err.structChanged)) :=
  C17_refused_frame (c := cR) (img := l2.img) cR_proj.1 ((congrArg Disk.schema cR_proj.2.1).trans synced2.schema)
    (by rw [cR_proj.2.2]; decide +kernel)

example : c2.create [dN, dS, dF] st2 = (c2, Res.err Err.unknownField) :=
  C17_create_refused [dN, dS, dF] st2 .unknownField schema2 (by decide +kernel)

example : compatErr l2 ".json" descs2 = none ↔
      l2.settings.ext = ".json" ∧ (∀ d ∈ l2.descs, ∃ e ∈ descs2, e.path = d.path) ∧ (∀ d ∈ descs2, ∃ e ∈ l2.descs, e.path = d.path) ∧
        ∀ d ∈ l2.descs, ∀ e ∈ descs2, e.path = d.path → e.type = d.type ∧ e.cons = d.cons :=
  C17_compatible_iff l2 ".json" descs2

example : (c2.create descs2 sta).snd = Res.ok () ∧ (c2.create descs2 sta).fst.pending = [] ∧ (c2.create descs2 sta).fst.cache = [] ∧
      (c2.create descs2 sta).fst.view = c2.view ∧ Inv' (c2.create descs2 sta).fst (createLoaded l2 sta) :=
  switch2

/-- switching the asynchronous collection (one object pending) to synchronous: nothing is lost -/
example : (ca.create descs2 st2).snd = Res.ok () ∧ (ca.create descs2 st2).fst.pending = [] ∧ (ca.create descs2 st2).fst.cache = [] ∧
      (ca.create descs2 st2).fst.view = ca.view ∧ Inv' (ca.create descs2 st2).fst (createLoaded la1 st2) :=
  C17_switch_settings descs2 st2 inva pendNodup_a ((compatErr_congr (l' := l2) rfl rfl _ _).trans compatSelf2)

example : descsCompatFields descs2 live2 = true ↔
      (∀ d ∈ descs2, (d.path, d.type) ∈ live2) ∧ ∀ p ∈ live2, ∃ d ∈ descs2, d.path = p.fst ∧ d.type = p.snd :=
  C17_guard_iff descs2 live2

/-! ### C18 -/

example (u : Nat) : c2.disk.files.has u = true ↔ u ∈ l2.index.uuids := C18_one_file_per_object inv2 pending2 u
example (u : Nat) : c2.disk.files.get? u = c2.view u := C18_file_is_object inv2 pending2 u

def uuidName : Layout.Name := "0a1B2c3D-4e5F-6071-8293-a4b5c6d7e8f9".toList

theorem uuidName_shaped : Layout.uuidShaped uuidName = true :=
  of_chars (p := fun l => Layout.uuidShaped l = true) rfl (by decide +kernel)
theorem json_dotted : ∃ e, ".json".toList = '.' :: e := of_chars (p := fun l => ∃ e, l = '.' :: e) rfl ⟨_, rfl⟩

example : Layout.discover (Layout.fileName ".json".toList true uuidName) = some uuidName :=
  C18_discover_own_file ".json".toList true uuidName uuidName_shaped json_dotted

def uuidName' : Layout.Name := "FFFFFFFF-4e5F-6071-8293-a4b5c6d7e8f9".toList
example (h : Layout.fileName ".json".toList false uuidName = Layout.fileName ".json".toList false uuidName') : uuidName = uuidName' :=
  C18_discover_injective ".json".toList false uuidName uuidName' uuidName_shaped
    (of_chars (p := fun l => Layout.uuidShaped l = true) rfl (by decide +kernel)) json_dotted h

example : Layout.discover ('.' :: "x.tmp".toList) = none ∧ Layout.discover "schema.json".toList = none :=
  C18_tmp_ignored _

/-! ### C19 -/

example (e : Err) (h : (Coll.search E c2 "S" (some .re) (Leaf.v (.str [42])) none).snd.err = some e) :
    e = Err.unknownField ∨ e = Err.keyType ∨ e = Err.cast ∨ e = Err.unknownOp ∨ e = Err.pattern ∨
    e = Err.corrupted ∨ e = Err.notFound ∨ e = Err.structChanged :=
  C19_error_classes E c2 "S" (some .re) _ none e h

example : (∀ fi, l2.index.field? "N" = some fi → Val.tag (.str [49]) ≠ fi.cast →
        (Coll.search E c2 "N" (some .eq) (Leaf.v (.str [49])) none).snd.err = some Err.cast) ∧
    (∀ pos d t, l2.index.field? "N" = none → descPos? l2.descs "N" = some (pos, d) → d.cast = some t → t ≠ Val.tag (.str [49]) →
        (Coll.search E c2 "N" (some .eq) (Leaf.v (.str [49])) none).snd.err = some Err.cast) :=
  C19_mistyped_probe E inv2 resN prepN (some .eq) none

theorem castN : (Coll.search E c2 "N" (some .eq) (Leaf.v (.str [49])) none).snd.err = some Err.cast :=
  (C19_mistyped_probe E inv2 resN prepN (some .eq) none).1 _ fieldN (by decide)

example : (Coll.search E c2 "N" (some .eq) (Leaf.v (.str [49])) none).snd.err = some Err.cast := castN

example : (Coll.search E c2 "F" (some .eq) (Leaf.v (.str [49])) none).snd.err = some Err.cast :=
  (C19_mistyped_probe E inv2 resF (pv := .str [49]) (by decide +kernel) (some .eq) none).2 2 dF .u64
    fieldF posF rfl (by decide)

/-- the pattern "*" does not compile: a pattern error, on the indexed and on the scanned path -/
example : (Coll.search E c2 "S" (some Op.re) (Leaf.v (.str [42])) none).snd.err = some Err.pattern :=
  C19_invalid_pattern E inv2 resS (s := [42]) (by decide +kernel) (by decide)
    (Or.inl ⟨_, fieldS, rfl⟩) none

example : (Coll.search E cu2 "S" (some Op.re) (Leaf.v (.str [42])) none).snd.err = some Err.pattern :=
  C19_invalid_pattern E invu2 resSu (s := [42]) (by decide +kernel) (by decide)
    (Or.inr ⟨fieldSu, 1, dSu, posSu, rfl⟩) none

example : c2.collect (Search.failed .cast) = (c2, Search.failed .cast, [], some .cast) ∧
    ((c2.one (Search.failed .cast)).snd.snd = Res.err .cast ∧ (c2.one (Search.failed .cast)).fst = c2) ∧
    c2.searchDelete (Search.failed .cast) = (c2, Res.err .cast) :=
  C19_failed_calls c2 (Search.failed .cast) .cast rfl

example : (Coll.search E c2 "N" (some .eq) (Leaf.v (.str [49])) none).snd.fields = [] :=
  C19_failed_no_entries E c2 "N" (some .eq) _ none (by rw [castN]; exact nofun)

example : ∃ e, (Coll.search E c2 "S" none (Leaf.v (.str [65])) none).snd = Search.failed e :=
  C19_unknown_operator E c2 "S" _ none

/-! ### C20 -/

example : (∀ o ∈ (c2.collect sN).snd.snd.fst, ∃ e ∈ sN.fields, ∃ u, l2.index.uuidOf e.snd = some u ∧ c2.view u = some o ∧ o.uuid = u) ∧
    ((sN.fields.map (·.snd)).Nodup → ((c2.collect sN).snd.snd.fst.map (·.uuid)).Nodup) :=
  C20_snapshot inv2 view2_zero sN

/-- a STALE search value (taken on `c2`) collected on `c3`, after the third insert: still a snapshot -/
example : (∀ o ∈ (c3.collect sN).snd.snd.fst, ∃ e ∈ sN.fields, ∃ u, l3.index.uuidOf e.snd = some u ∧ c3.view u = some o ∧ o.uuid = u) ∧
    ((sN.fields.map (·.snd)).Nodup → ((c3.collect sN).snd.snd.fst.map (·.uuid)).Nodup) :=
  C20_snapshot inv3 (by rw [step3.view, view2]; rfl) sN

example : ix3.oidOf 1 = some 0 := C20_oid_stable_insert wf2 iou3 (by decide)
example : l2.index.uuidOf 1 = some 2 := C20_oid_never_reassigned wf2 iou3 (u := 2) (oid := 1) (by decide) (by decide)
example : l2.index.next ≤ ix3.next := C20_next_monotone iou3
example : (l2.index.deleteByUUID 1).next = l2.index.next := C20_delete_keeps_counter _ _
example : (Coll.collect c2 sN).2.1.fields = sN.fields := C20_collect_keeps_entries c2 sN

/-! ## 6. axioms -/

#print axioms inv2
#print axioms sim2
#print axioms inva
#print axioms invu2
#print axioms lin_run
#print axioms old_C13_limit_hypothesis_only_nil

end Sod.Props.Witness
