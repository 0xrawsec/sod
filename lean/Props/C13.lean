/-
  C13 — Result order, Reverse, Limit, One and AssignIndex follow the index order.
-/
import Props.C02
namespace Sod.Props
open Sod

/-- the result of a comparison on an indexed field is a sub-list of the (descending) field
    index: it comes out in non-increasing order of the field -/
theorem C13_result_sorted (m : Option Matcher) (op : Op) (hop : op ≠ .re) (l : FIdx) (k : Val) (h : Desc l) :
    ∃ r, ObjIndex.searchOp m op l k = .ok r ∧ r.Sublist l ∧ Desc r :=
  ⟨_, C02_index_exact m op hop l k h, List.filter_sublist, h.filter _⟩

/-- an And refinement ending on an indexed field re-inserts the surviving entries by
    bisection: whatever order the previous result had, the refined index is descending in the
    NEW field -/
theorem C13_and_sorted (l prev : FIdx) : Desc (l.constrain prev) := constrain_desc l prev

/-- inserting keeps the index descending, and an entry with an equal value goes after the
    existing ones (the order among ties is insertion order) -/
theorem C13_insert_sorted (l : FIdx) (e : Entry) (h : Desc l) :
    Desc (l.insert e) ∧
    l.insert e = l.filter (fun x => !Val.lt x.1 e.1) ++ e :: l.filter (fun x => Val.lt x.1 e.1) :=
  ⟨insert_desc l e h, insert_eq_split l e h⟩

/-- Reverse yields non-decreasing order: the reverse of a descending list is ascending -/
theorem C13_reverse (r : FIdx) (h : Desc r) : r.reverse.Pairwise (fun a b => Val.lt b.1 a.1 = false) := by
  rw [List.pairwise_reverse]
  exact h

/-- Limit: on a consistent collection, when every member can be read, the collection loop appends
    exactly the first `min limit n` objects of the iteration order (their current content) and
    reports no error; the limit is consumed by what was returned.
    (Readability is asked of `c` only: asked of every collection state it holds of the empty list
    alone, `old_C13_limit_hypothesis_only_nil` in Props/Witness.lean.) -/
theorem C13_limit {c : Coll} {l : Loaded} (h : Inv' c l) (us : List Nat) (lim : Nat) (out : List Obj)
    (hall : ∀ u ∈ us, (c.view u).isSome) :
    (Coll.collectLoop c us lim out).2.2.1 = out ++ (us.take lim).filterMap c.view ∧
    (Coll.collectLoop c us lim out).2.2.1.length = out.length + min lim us.length ∧
    (Coll.collectLoop c us lim out).2.2.2 = none ∧
    (Coll.collectLoop c us lim out).2.1 = lim - us.length := by
  obtain ⟨c', hc, _⟩ := collectLoop_all h us lim out hall
  rw [hc]
  refine ⟨rfl, ?_, rfl, rfl⟩
  show (out ++ (us.take lim).filterMap c.view).length = _
  rw [List.length_append, List.filterMap_length_eq_length.mpr fun u hu => hall u (List.mem_of_mem_take hu),
    List.length_take]

/-- AssignIndex returns the values of the field index, in index order, one per indexed object -/
theorem C13_assignIndex {ix : ObjIndex} (h : ix.WF) {fi : FieldIdx} (hfi : fi ∈ ix.fields) :
    Desc fi.idx ∧ (fi.idx.map (·.2)).Perm (ix.ids.map (·.1)) :=
  ⟨(h.fields fi hfi).desc, (h.fields fi hfi).oids⟩

example : ObjIndex.searchOp none .le [(Val.u64 9, 1), (Val.u64 4, 2), (Val.u64 4, 5), (Val.u64 0, 3)] (Val.u64 4) =
    .ok [(Val.u64 4, 2), (Val.u64 4, 5), (Val.u64 0, 3)] := by
  rw [C02_index_exact none .le (by decide) _ _ (by unfold Desc; decide +kernel)]
  decide +kernel

/-! ### on a collection -/

/-- Collect returns, in the chosen order, the first min(limit, matches) objects (their current
    content), and Limit is consumed by what was returned -/
theorem C13_collect {c : Coll} {l : Loaded} (h : Inv' c l) (s : Search) (he : s.err = none)
    (hall : ∀ e ∈ s.fields, ∃ u, l.index.uuidOf e.snd = some u) :
    (c.collect s).snd.snd.fst =
        List.filterMap c.view (List.take s.limit (if s.reverse = true then (s.uuids l).reverse else s.uuids l)) ∧
    (c.collect s).snd.snd.snd = none ∧
    (c.collect s).snd.snd.fst.length = min s.limit s.fields.length := by
  obtain ⟨c', h1, _⟩ := collect_spec h s he hall
  exact ⟨by rw [h1]; rfl, by rw [h1], collect_length h s he hall⟩

/-- One answers the no-object error iff the result is empty; otherwise the first element of
    the chosen order -/
theorem C13_one {c : Coll} {l : Loaded} (h : Inv' c l) (s : Search) (he : s.err = none) :
    ((c.one s).snd.snd = Res.err Err.noObject ↔ s.fields = []) := (one_spec h s he).1

/-- AssignIndex: the field value of every stored object, once each, non-increasing -/
theorem C13_assignIndex_coll {c : Coll} {l : Loaded} {field : String} {fi : FieldIdx} (h : Inv' c l)
    (hi : l.index.field? field = some fi) :
    c.assignIndex field = (c, Res.ok (fi.idx.map (·.fst))) ∧
    List.Pairwise (fun a b => a.lt b = false) (fi.idx.map (·.fst)) ∧
    (fi.idx.map (·.fst)).length = l.index.uuids.length ∧
    (∀ u o, c.view u = some o → ∃ x ∈ fi.idx.map (·.fst), o.field fi.pos = Leaf.v x) := by
  obtain ⟨a, _, b, d, _, e⟩ := assignIndex_spec h hi
  exact ⟨a, b, d, e⟩

end Sod.Props
