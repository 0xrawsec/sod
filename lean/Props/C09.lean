/-
  C09 — No API call can block forever.

  Machine-level theorems (every schedule, any number of threads) over the lock programs of the
  package, plus the REGENERATED obligation that every lock path extracted from /repo's current
  source is disciplined (acquires in rank order DB.l < objectStore < objectMap < DB.sl, never a
  lock it already holds, releases what it holds, ends holding nothing).
-/
import Proofs.Lock
import Generated.Locks
namespace Sod.Props
open Sod.Lock

/-- disciplined threads never deadlock: whenever a thread is unfinished some step is guaranteed -/
theorem C09_no_deadlock {s0 s : State} (h0 : Initial s0) (r : Reach s0 s) (hun : ∃ t ∈ s, t.todo ≠ []) :
    ∃ s', GStep s s' := Sod.Lock.C09_no_deadlock h0 r hun

/-- and every execution of guaranteed steps can be continued to the point where every call
    has returned -/
theorem C09_all_return (s : State) (hok : ∀ t ∈ s, TOK t) :
    ∃ s', GStar s s' ∧ ∀ t ∈ s', t.todo = [] := Sod.Lock.C09_all_return s hok

/-- REGENERATED on every run: in every exported entry point and goroutine of the current
    source, every lock action respects the discipline in the state it is taken in, and every
    call ends holding nothing -/
theorem C09_entries_ok : Generated.Locks.entries.all EntryFacts.ok = true := by decide +kernel

/-- hence every path the extractor covers is disciplined … -/
theorem C09_paths_disciplined (e : EntryFacts) (he : e ∈ Generated.Locks.entries) (p : List Act)
    (hc : e.covers p) : Disc [] p :=
  disc_of_covered e (List.all_eq_true.1 C09_entries_ok e he) p hc

/-- … and any set of concurrently running calls is an `Initial` state of the machine, to which
    `C09_no_deadlock` and `C09_all_return` apply -/
theorem C09_entries_initial (s : State)
    (h : ∀ t ∈ s, t.held = [] ∧ t.pend = false ∧ ∃ e ∈ Generated.Locks.entries, e.covers t.todo) : Initial s := by
  intro t ht
  obtain ⟨h1, h2, e, he, hp⟩ := h t ht
  exact ⟨h1, h2, C09_paths_disciplined e he _ hp⟩

/-- the pinned release's `All → Iterator` (read lock taken twice with a writer queued) is a
    state of this machine with no guaranteed step: the theorem's hypothesis is what matters -/
theorem C09_pinned_release_deadlock : ¬ ∃ s', GStep stuck s' := stuck_is_deadlocked

end Sod.Props
