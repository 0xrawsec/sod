/-
  C11 — Control detects every index/file divergence and Repair restores agreement.
-/
import Proofs.Reopen
namespace Sod.Props
open Sod

/-- Control (and the first load) answers ok if and only if the structure is unchanged, the
    index is internally consistent (ordered field indexes, one entry per object) and the set of
    indexed identifiers equals the set of object files — both inclusions -/
theorem C11_control_iff (live : List (String × String)) (d : Disk) (l : Loaded) :
    controlLoaded live d l = Res.ok () ↔
      descsCompatFields l.descs live = true ∧ l.index.control = true ∧
      (∀ u ∈ d.files.keys, u ∈ l.index.uuids) ∧ (∀ u ∈ l.index.uuids, d.files.has u = true) :=
  controlLoaded_iff live d l

/-- and otherwise, the structure being unchanged, it answers CORRUPTION (no other class) -/
theorem C11_corrupted_iff (live : List (String × String)) (d : Disk) (l : Loaded) :
    controlLoaded live d l = Res.err Err.corrupted ↔
      descsCompatFields l.descs live = true ∧
      ¬ (l.index.control = true ∧ (∀ u ∈ d.files.keys, u ∈ l.index.uuids) ∧ (∀ u ∈ l.index.uuids, d.files.has u = true)) :=
  controlLoaded_corrupted_iff live d l

/-- no false positive: a collection in a state reachable without tampering, nothing pending,
    passes Control in every configuration -/
theorem C11_no_false_positive {c : Coll} {l : Loaded} (h : Inv' c l) (hp : c.pending = []) (hk : ShapeOk c l) :
    controlLoaded c.live c.disk l = Res.ok () := control_ok_of_inv h hp hk

/-- Repair modifies and deletes no file -/
theorem C11_repair_no_fs (c : Coll) : c.repair.fst.disk = c.disk ∧ c.repair.fst.log = c.log := repair_no_fs c

/-- Repair converges: from a well-formed index that agrees with the files on the identifiers
    they share (files may have been removed, files may have been added), unless two unindexed
    files violate uniqueness between them, Repair answers ok and afterwards the indexed
    identifiers are exactly the files, the index reflects the actual file contents, and
    Control answers ok -/
theorem C11_repair_converges {c : Coll} {l : Loaded} (hm : c.schema.fst.mem = some l) (hw : l.index.WF)
    (hag : Agree l.index c.disk.files) (hty : ∀ u o, c.disk.files.get? u = some o → Obj.Typed l.index o)
    (hk : c.disk.files.Keyed) (hc : ∀ u o, c.cache.get? u = some o → c.disk.files.get? u = some o) :
    (c.repair.snd = Res.ok () ∧ ∃ l', c.repair.fst.mem = some l' ∧ l'.index.WF ∧
        (∀ u, u ∈ l'.index.uuids ↔ c.disk.files.has u = true) ∧ (Reflects l'.index fun u => c.disk.files.get? u) ∧
        (ShapeOk c l → c.repair.fst.control = Res.ok ())) ∨
    c.repair.snd = Res.err Err.unique := by
  rcases repair_converges hm (by rw [repairStart, control_of_wf hw]; exact ⟨hw, hag, hty, Nat.le_refl _⟩) hk hc with
    ⟨a, l', b, d, e, f, _, _, _, g⟩ | h
  · exact Or.inl ⟨a, l', b, d, e, f, g⟩
  · exact Or.inr h

end Sod.Props
