/-
  C19 — Malformed files and arguments produce errors, never panics or hangs.

  Proved on the model: the search-argument part (every triple field / operator / value gives an
  error of a closed list of classes or an evaluated result; a failed search denotes no object
  and every later call on it fails with its error, touching nothing).  For damaged files the
  decoders are exercised by the `hostile_dirs` runner (every node of schema.json nulled,
  retyped, dropped, duplicated …), not modelled: oracle = no panic, no hang.
-/
import Proofs.SearchColl
namespace Sod.Props
open Sod

/-- whatever the state and the arguments, a search that fails does so with one of eight classes -/
theorem C19_error_classes (E : Env) (c : Coll) (field : String) (op : Option Op) (probe : Leaf) (k : Option FIdx) (e : Err)
    (h : (Coll.search E c field op probe k).snd.err = some e) :
    e = Err.unknownField ∨ e = Err.keyType ∨ e = Err.cast ∨ e = Err.unknownOp ∨ e = Err.pattern ∨
    e = Err.corrupted ∨ e = Err.notFound ∨ e = Err.structChanged := by
  have hm : e ∈ searchErrs ∨ e = Err.structChanged := by
    rcases search_err_mem h with hc | hs
    · exact .inl hc
    -- the schema access fails with `notFound`, `structChanged` or `corrupted` only
    rcases schema_cases c with ⟨l, h'⟩ | h' | h' | h'
    · cases h'.symm.trans hs
    · cases h'.symm.trans hs
      exact .inl (by decide)
    · cases h'.symm.trans hs
      exact .inr rfl
    · cases h'.symm.trans hs
      exact .inl (by decide)
  simpa only [mem_searchErrs, or_assoc] using hm

/-- a query that could not be evaluated denotes no object … -/
theorem C19_failed_no_entries (E : Env) (c : Coll) (field : String) (op : Option Op) (probe : Leaf) (k : Option FIdx)
    (h : (Coll.search E c field op probe k).snd.err ≠ none) : (Coll.search E c field op probe k).snd.fields = [] := by
  obtain ⟨e, he⟩ := search_failed E c field op probe k h
  rw [he]
  rfl

/-- … and Collect, One, Delete on it return its error without touching the collection -/
theorem C19_failed_calls (c : Coll) (s : Search) (e : Err) (h : s.err = some e) :
    c.collect s = (c, s, [], some e) ∧ ((c.one s).snd.snd = Res.err e ∧ (c.one s).fst = c) ∧ c.searchDelete s = (c, Res.err e) :=
  ⟨failed_collect c s e h, failed_one c s e h, failed_searchDelete c s e h⟩

/-- an operator outside the seven known ones is refused in every state: field indexed or not,
    collection empty or not -/
theorem C19_unknown_operator (E : Env) (c : Coll) (field : String) (probe : Leaf) (k : Option FIdx) :
    ∃ e, (Coll.search E c field none probe k).snd = Search.failed e :=
  search_none_failed E c field probe k

/-- a mistyped value is refused with the cast error on both paths, whatever the collection holds -/
theorem C19_mistyped_probe (E : Env) {c : Coll} {l : Loaded} (h : Inv' c l) {field : String}
    (hr : pathResolvable c.live field = true) {probe : Leaf} {pv : Val} (hp : E.prepare l.descs field probe = Leaf.v pv)
    (op : Option Op) (k : Option FIdx) :
    (∀ fi, l.index.field? field = some fi → pv.tag ≠ fi.cast → (Coll.search E c field op probe k).snd.err = some Err.cast) ∧
    (∀ pos d t, l.index.field? field = none → descPos? l.descs field = some (pos, d) → d.cast = some t → t ≠ pv.tag →
        (Coll.search E c field op probe k).snd.err = some Err.cast) := by
  constructor
  · intro _ hi ht
    rw [search_indexed_path (schema_of_inv h.toInv) hr hp hi, if_neg ht]
    rfl
  · intro _ _ _ hi hd hc ht
    rw [search_scan_path (schema_of_inv h.toInv) hr hp hi hd hc, if_neg ht]
    rfl

/-- an invalid pattern is an error on both paths (never a silently empty result) -/
theorem C19_invalid_pattern (E : Env) {c : Coll} {l : Loaded} (h : Inv' c l) {field : String}
    (hr : pathResolvable c.live field = true) {probe : Leaf} {s : Bytes}
    (hp : E.prepare l.descs field probe = Leaf.v (Val.str s)) (hc : E.compile s = none)
    (hk : (∃ fi, l.index.field? field = some fi ∧ fi.cast = Tag.str) ∨
          (l.index.field? field = none ∧ ∃ pos d, descPos? l.descs field = some (pos, d) ∧ d.cast = some Tag.str))
    (k : Option FIdx) : (Coll.search E c field (some Op.re) probe k).snd.err = some Err.pattern := by
  rcases hk with ⟨fi, hi, hcast⟩ | ⟨hi, pos, d, hd, hcd⟩
  · rw [search_indexed_path (schema_of_inv h.toInv) hr hp hi, if_pos (show (Val.str s).tag = fi.cast from hcast.symm)]
    simp only [Env.viaIndex, probeMatcher_str, hc, ObjIndex.searchOp]
    rfl
  · rw [search_scan_path (schema_of_inv h.toInv) hr hp hi hd hcd, if_pos (show Tag.str = (Val.str s).tag from rfl)]
    simp only [Env.viaScan, scanMatcher_re_str, hc]
    rfl

end Sod.Props
