/-
  C16 — upper/lower constraints canonicalise stored and searched values.
  The facts assumed about strings.ToUpper / strings.ToLower are the three laws of `CaseLaws`;
  they are validated exhaustively over all 1 112 064 code points by every run of the check
  (`harness -casecheck`) and belong to the trusted base.
-/
import Proofs.Canon
import Proofs.Tags
namespace Sod.Props
open Sod

/-- applying the constraint twice changes nothing (upper, lower, both, none) -/
theorem C16_canon_idem (E : Env) (L : CaseLaws E) (descs : List FieldDesc) (o : Obj) :
    E.canon descs (E.canon descs o) = E.canon descs o := canon_idem E L descs o

theorem C16_canonBytes_idem (E : Env) (L : CaseLaws E) (c : Cons) (s : Bytes) :
    E.canonBytes c (E.canonBytes c s) = E.canonBytes c s := canonBytes_idem E L c s

/-- what an accepted insert stores is canonical, at every constrained position, whatever case
    was supplied -/
theorem C16_stored_canonical {E : Env} (L : CaseLaws E) {c : Coll} {l : Loaded} (h : Inv' c l) (o : Obj) (fresh : Nat)
    (ht : Obj.Typed l.index (assignNew (E.canon l.descs (E.transform o)) fresh))
    (hr : (Coll.insert E c o fresh).snd = Res.ok ()) :
    ∃ o', (Coll.insert E c o fresh).fst.view o'.uuid = some o' ∧ E.canon l.descs o' = o' ∧
      ∀ (i : Nat) (hi : i < l.descs.length), o'.field i = E.canonLeaf l.descs[i].cons ((E.transform o).field i) :=
  ⟨_, stored_is_canonical L h o fresh ht hr⟩

/-- a search value for such a field is canonicalised the same way … -/
theorem C16_probe_canonical (E : Env) (descs : List FieldDesc) (field : String) (i : Nat) (d : FieldDesc) (s : Bytes)
    (h : descPos? descs field = some (i, d)) :
    E.prepare descs field (Leaf.v (Val.str s)) =
      Leaf.v (Val.str (if d.cons.transformer = true then E.canonBytes d.cons s else s)) := by
  rw [prepare_eq_canonLeaf E _ h, canonLeaf_str]
  split
  · rfl
  · next ht => rw [canonBytes_of_not_transformer E d.cons (Bool.eq_false_iff.mpr ht)]

set_option linter.unusedVariables false in  -- `ht` is not used
/-- … so searches on it are case-insensitive whether or not it is indexed: two probes with the
    same canonical form give the SAME search, constrained or not -/
theorem C16_search_case_insensitive (E : Env) (c : Coll) (l : Loaded) (field : String) (op : Option Op) (s₁ s₂ : Bytes)
    (k : Option FIdx) (i : Nat) (d : FieldDesc) (hs : c.schema = (c, Res.ok l))
    (hd : descPos? l.descs field = some (i, d)) (ht : d.cons.transformer = true)
    (he : E.canonBytes d.cons s₁ = E.canonBytes d.cons s₂) :
    Coll.search E c field op (Leaf.v (Val.str s₁)) k = Coll.search E c field op (Leaf.v (Val.str s₂)) k :=
  search_case_insensitive E c l field op s₁ s₂ k i d hs hd he

/-- tag parsing: the constraints a struct tag gives are exactly "the token occurs" (`unique` also
    giving `index`), so a constraint is never lost or invented by the position of its token -/
theorem C16_tags_spec (tags : List String) :
    (Cons.ofTags tags).index = (tags.contains "index" || tags.contains "unique") ∧
    (Cons.ofTags tags).unique = tags.contains "unique" ∧
    (Cons.ofTags tags).upper = tags.contains "upper" ∧
    (Cons.ofTags tags).lower = tags.contains "lower" := ofTags_spec tags

theorem C16_tags_order_independent {a b : List String} (h : a.Perm b) : Cons.ofTags a = Cons.ofTags b :=
  ofTags_perm h

example : (Cons.ofTags ["lower", "unique"]).flags = "iuL" ∧ (Cons.ofTags ["unique", "lower"]).flags = "iuL" := by decide +kernel

end Sod.Props
