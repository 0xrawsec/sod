/-
  C18 — On-disk layout is stable and readable by other tools and versions.

  Naming rules and the layout invariant are proved on the model; the format constants are
  REGENERATED from /repo's source by the extractor on every run and compared here with the table
  of the pinned release.  The golden corpus (directories written by the pinned release under
  all 32 configurations, reopened by the current code on every run) is the translation-validation
  part of the check (tools/special.py: golden_corpus).
-/
import Proofs.Layout
import Generated.Format
namespace Sod.Props
open Sod Sod.Layout

/-- every object file is discovered under its own uuid, for every extension beginning with a
    dot, compressed or not -/
theorem C18_discover_own_file (ext : Name) (gz : Bool) (u : Name) (hu : uuidShaped u = true) (he : ∃ e, ext = '.' :: e) :
    discover (fileName ext gz u) = some u := by
  obtain ⟨e, rfl⟩ := he
  rw [fileName, List.append_assoc, List.cons_append]
  exact discover_append_dot u _ hu

set_option linter.unusedVariables false in
/-- two objects never share a file name (holds of any names: the hypotheses on shape and
    extension are not needed) -/
theorem C18_discover_injective (ext : Name) (gz : Bool) (u v : Name) (hu : uuidShaped u = true) (hv : uuidShaped v = true)
    (he : ∃ e, ext = '.' :: e) (h : fileName ext gz u = fileName ext gz v) : u = v :=
  fileName_injective ext gz h

/-- temporary files (".<name>.tmp") and schema.json are never taken for objects -/
theorem C18_tmp_ignored (rest : Name) : discover ('.' :: rest) = none ∧ discover "schema.json".toList = none :=
  ⟨discover_dot_prefixed rest, discover_schema⟩

/-- with nothing pending the collection directory holds exactly one file per stored object … -/
theorem C18_one_file_per_object {c : Coll} {l : Loaded} (h : Inv' c l) (hp : c.pending = []) (u : Nat) :
    c.disk.files.has u = true ↔ u ∈ l.index.uuids := by
  rw [h.dom u, view_nopend hp, OMap.has_iff_get?_isSome]

set_option linter.unusedVariables false in
/-- … whose content is the object (of any handle with nothing pending: `h` is not needed) -/
theorem C18_file_is_object {c : Coll} {l : Loaded} (h : Inv' c l) (hp : c.pending = []) (u : Nat) :
    c.disk.files.get? u = c.view u := (view_nopend hp u).symm

/-- REGENERATED on every run: the persistent-format constants of the current source are those
    of the pinned release -/
theorem C18_format_pinned :
    Generated.Format.schemaFilename = "schema.json" ∧ Generated.Format.defaultExtension = ".json" ∧
    Generated.Format.compressedExtension = ".gz" ∧
    Generated.Format.uuidRegexp = "(?i:^[A-F0-9]{8}-[A-F0-9]{4}-[A-F0-9]{4}-[A-F0-9]{4}-[A-F0-9]{12}$)" ∧
    Generated.Format.jsonTags = [
      ("Constraints", "Index", "index,omitempty", "bool"), ("Constraints", "Lower", "lower,omitempty", "bool"),
      ("Constraints", "Unique", "unique,omitempty", "bool"), ("Constraints", "Upper", "upper,omitempty", "bool"),
      ("FieldDescriptor", "Constraints", "constraints", "Constraints"), ("FieldDescriptor", "Path", "path", "string"),
      ("FieldDescriptor", "Type", "type", "string"),
      ("Schema", "AsyncWrites", "async-writes,omitempty", "*Async"), ("Schema", "Cache", "cache", "bool"),
      ("Schema", "Compress", "compress", "bool"), ("Schema", "Extension", "extension", "string"),
      ("Schema", "Fields", "fields", "FieldDescMap"), ("Schema", "ObjectIndex", "index", "*objIndex"),
      ("fieldIndex", "Cast", "cast", "string"), ("fieldIndex", "Constraints", "constraints", "Constraints"),
      ("fieldIndex", "Index", "index", "[]*indexedField"), ("fieldIndex", "Name", "name", "string"),
      ("jsonAsync", "Enable", "enable", "bool"), ("jsonAsync", "Threshold", "threshold", "int"),
      ("jsonAsync", "Timeout", "timeout", "string"),
      ("jsonObjIndex", "Fields", "fields", "map[string]*fieldIndex"), ("jsonObjIndex", "ObjectIds", "object-ids", "map[uint64]string")] ∧
    Generated.Format.casts = [
      "float32,float64=>\"float64\"", "int,int16,int32,int64,int8,time.Time=>\"int64\"", "string=>d.Type",
      "uint,uint16,uint32,uint64,uint8=>\"uint64\""] :=
  ⟨rfl, rfl, rfl, rfl, rfl, rfl⟩

end Sod.Props
