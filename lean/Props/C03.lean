/-
  C03 — Uniqueness constraints are never violated and never over-enforced.
-/
import Proofs.ObjIndex
namespace Sod.Props
open Sod

/-- never violated: in every well-formed index a unique field holds pairwise distinct values,
    and well-formedness is preserved by every accepted insert/update and by every delete -/
theorem C03_unique_invariant {ix : ObjIndex} (h : ix.WF) {fi : FieldIdx} (hfi : fi ∈ ix.fields)
    (hu : fi.cons.unique = true) : fi.idx.Pairwise (fun a b => a.1 ≠ b.1) :=
  (h.fields fi hfi).uniq hu

theorem C03_preserved_by_insert {ix ix' : ObjIndex} {o : Obj} (h : ix.WF) (ht : o.Typed ix)
    (hr : ix.insertOrUpdate o = .ok ix') : ix'.WF := insertOrUpdate_wf h ht hr

theorem C03_preserved_by_delete {ix : ObjIndex} (h : ix.WF) (u : Nat) : (ix.deleteByUUID u).WF :=
  deleteByUUID_wf h u

theorem C03_preserved_by_reopen {ix : ObjIndex} (h : ix.WF) : ix.reload.WF := reload_wf h

/-- never over-enforced, never under-enforced: a single insert or update is rejected with the
    uniqueness error if and only if a DIFFERENT stored object already holds the value in a
    unique field (re-saving an object with its own value is therefore accepted, and a value
    released by a delete or an update is immediately reusable) -/
theorem C03_reject_iff {ix : ObjIndex} {o : Obj} (h : ix.WF) (ht : o.Typed ix) :
    ix.insertOrUpdate o = .err .unique ↔
      ∃ fi ∈ ix.fields, fi.cons.unique = true ∧
        ∃ e ∈ fi.idx, o.field fi.pos = .v e.1 ∧ ix.uuidOf e.2 ≠ some o.uuid :=
  insertOrUpdate_err_iff.trans (satisfyAll_unique_iff h ht)

set_option linter.unusedVariables false in  -- `h` is not used
/-- and there is no other way to be refused -/
theorem C03_accept_or_unique {ix : ObjIndex} {o : Obj} (h : ix.WF) (ht : o.Typed ix) :
    (∃ ix', ix.insertOrUpdate o = .ok ix') ∨ ix.insertOrUpdate o = .err .unique :=
  insertOrUpdate_total ht

/-- after a reload (close/reopen) the object-id counter lies above every id in use, so ids —
    and with them released unique values — are never confused with those of another object -/
theorem C03_reload_next_above {ix : ObjIndex} (h : ix.WF) : ∀ p ∈ ix.reload.ids, p.1 < ix.reload.next :=
  (reload_wf h).ltNext

/-- non-vacuity: a one-field unique index holding "a" for object 1 rejects a second object with "a" -/
def demoIx : ObjIndex :=
  { next := 1, ids := [(0, 1)],
    fields := [{ name := "S", pos := 0, cast := .str, cons := { index := true, unique := true }, idx := [(.str [97], 0)] }] }
theorem demoIx_wf : demoIx.WF where
  oidNodup := by decide
  uuidNodup := by decide
  ltNext := by decide
  fields := List.forall_mem_singleton.2
    ⟨List.pairwise_singleton _ _, by decide, by decide, fun _ => by decide⟩

def twin : Obj := { uuid := 2, shape := "", vals := [.v (.str [97])] }
theorem twin_typed : twin.Typed demoIx := List.forall_mem_singleton.2 ⟨.str [97], rfl, rfl⟩

example : demoIx.insertOrUpdate twin = .err .unique :=
  (C03_reject_iff demoIx_wf twin_typed).mpr
    ⟨_, List.mem_singleton.mpr rfl, rfl, (.str [97], 0), by decide, rfl, by decide⟩

end Sod.Props
