/-
  C17 — Schema guard: incompatible structure or settings are refused without damage.
-/
import Proofs.Canon
namespace Sod.Props
open Sod

/-- the structure guard compares the stored (path, type) pairs with those of the live struct,
    both ways -/
theorem C17_guard_iff (stored : List FieldDesc) (live : List (String × String)) :
    descsCompatFields stored live = true ↔
      (∀ d ∈ stored, (d.path, d.type) ∈ live) ∧ ∀ p ∈ live, ∃ d ∈ stored, d.path = p.fst ∧ d.type = p.snd :=
  compat_fields_iff stored live

/-- if the stored structure differs from the Go struct, EVERY call on a new handle answers
    `structChanged` and returns the state it was given: no file is touched -/
theorem C17_refused_frame {c : Coll} {img : SchemaImg} (hm : c.mem = none) (hs : c.disk.schema = some img)
    (hc : descsCompatFields img.descs c.live = false) :
    (∀ u, c.get u = (c, Res.err Err.structChanged)) ∧ c.count = (c, Res.err Err.structChanged) ∧
    (∀ (E : Env) (o : Obj) (fresh : Nat), Coll.insert E c o fresh = (c, Res.err Err.structChanged)) ∧
    (∀ u, c.delete u = (c, Res.err Err.structChanged)) ∧
    (∀ (E : Env) (os : List Obj) (w : Option (Nat × Bool)), (Coll.many E c os w).fst = c) ∧
    (∀ descs st, c.create descs st = (c, Res.err Err.structChanged)) ∧ c.repair = (c, Res.err Err.structChanged) ∧
    (∀ (E : Env) f op p k, Coll.search E c f op p k = (c, Search.failed Err.structChanged)) :=
  let ⟨g, _, n, _, i, d, _, _, m, _, _, cr, r, s⟩ := every_call_refused hm hs hc
  ⟨g, n, i, d, m, cr, r, s⟩

/-- re-creating with a different extension or different constraints is refused, nothing changes -/
theorem C17_create_refused {c : Coll} {l : Loaded} (descs : List FieldDesc) (st : Settings) (e : Err)
    (hs : c.schema = (c, Res.ok l)) (hc : compatErr l st.ext descs = some e) : c.create descs st = (c, Res.err e) :=
  create_incompatible_frame descs st e hs hc

theorem C17_compatible_iff (l : Loaded) (ext : String) (descs : List FieldDesc) :
    compatErr l ext descs = none ↔
      l.settings.ext = ext ∧ (∀ d ∈ l.descs, ∃ e ∈ descs, e.path = d.path) ∧ (∀ d ∈ descs, ∃ e ∈ l.descs, e.path = d.path) ∧
        ∀ d ∈ l.descs, ∀ e ∈ descs, e.path = d.path → e.type = d.type ∧ e.cons = d.cons :=
  compatErr_none_iff l ext descs

/-- Create with a compatible schema may switch cache and async settings at any time: nothing
    pending is lost, nothing stale stays cached, the collection denotes the same objects and is
    a consistent state of the new configuration -/
theorem C17_switch_settings {c : Coll} {l : Loaded} (descs : List FieldDesc) (st : Settings) (h : Inv' c l)
    (hp : PendNodupC c) (hc : compatErr l st.ext descs = none) :
    (c.create descs st).snd = Res.ok () ∧ (c.create descs st).fst.pending = [] ∧ (c.create descs st).fst.cache = [] ∧
      (c.create descs st).fst.view = c.view ∧ Inv' (c.create descs st).fst (createLoaded l st) :=
  create_idempotent_view descs st h hp hc

end Sod.Props
