/-
  C10 — Async writes: visible at once, flushed by threshold/timeout, complete at Close.

  The flusher body runs under the write lock, so "all relative timings" of the flusher versus
  foreground calls are all interleavings of `tick` (one 100 ms poll) with the other calls:
  `Reach` (Proofs/Async.lean).  Wall-clock behaviour (sleep granularity, scheduler latency) is observed by
  the correspondence profile `async`, not proved.
-/
import Proofs.Async
namespace Sod.Props
open Sod

/-- an accepted write is immediately visible to Get and Exist on the handle — whatever the
    configuration -/
theorem C10_visible {E : Env} {c : Coll} {l : Loaded} (h : Inv' c l) (o : Obj) (fresh : Nat)
    (ht : Obj.Typed l.index (assignNew (E.canon l.descs (E.transform o)) fresh))
    (hr : (Coll.insert E c o fresh).snd = Res.ok ()) :
    ((Coll.insert E c o fresh).fst.get (assignNew (E.canon l.descs (E.transform o)) fresh).uuid).snd =
        Res.ok (assignNew (E.canon l.descs (E.transform o)) fresh) ∧
    ((Coll.insert E c o fresh).fst.exist (assignNew (E.canon l.descs (E.transform o)) fresh).uuid).snd = Res.ok true :=
  async_visible h o fresh ht hr

/-- in EVERY state reachable by any interleaving of inserts, deletes, reads, explicit flushes
    and flusher polls of an asynchronous collection: one poll flushes everything once the
    threshold is reached; `timeout + 1` polls flush everything regardless; Close flushes
    everything and commits the schema; a delete leaves the object neither pending nor on disk.
    `Flushed v img c'` = nothing pending, files = v, schema.json = img. -/
theorem C10_every_run {c0 c : Coll} {l0 : Loaded} {a : Async} (h : Inv' c0 l0) (hp : PendNodup c0)
    (ha : l0.settings.async = some a) (hr : Reach c0 c) :
    ∃ l, Inv' c l ∧ l.settings.async = some a ∧ l.flusher = true ∧
      (c.pending.length ≥ a.threshold → Flushed c.view l.img c.tick) ∧
      Flushed c.view l.img (ticks (a.timeout + 1) c) ∧
      Flushed c.view l.img c.close.fst ∧
      ∀ u, (c.delete u).fst.pending.get? u = none ∧ (c.delete u).fst.disk.files.get? u = none := by
  obtain ⟨l, h, hn, hs⟩ := reach_inv h hp hr
  have ha' : l.settings.async = some a := by rw [hs]; exact ha
  exact ⟨l, h, ha', h.flusher (Option.isSome_of_eq_some ha'), fun hth => tick_due h hn ha' (Or.inl hth),
    ticks_flushed a.timeout h hn ha' (Nat.le_add_left _ _), close_flushed h hn, delete_pending_gone h⟩

/-- FlushAll / FlushAllAndCommit return only after everything accepted is on disk (and, for the
    latter, the schema committed) -/
theorem C10_flush_complete {c : Coll} {l : Loaded} (h : Inv' c l) (hp : PendNodup c) :
    (c.flushAll.pending = [] ∧ ∀ u, c.flushAll.disk.files.get? u = c.view u) ∧
    (c.flushAllAndCommit.fst.pending = [] ∧ c.flushAllAndCommit.fst.disk.schema = some l.img ∧
      ∀ u, c.flushAllAndCommit.fst.disk.files.get? u = c.view u) :=
  have hF := flushAllAndCommit_flushed h hp
  ⟨⟨rfl, flushAll_files_view h.keyedP hp⟩, hF.pending, hF.schema, hF.files⟩

/-- an object deleted while its write was pending never appears on disk afterwards: not after
    any number of polls, nor after FlushAll, Close or FlushAllAndCommit -/
theorem C10_deleted_never_written {c : Coll} {l : Loaded} (h : Inv' c l) (hp : PendNodup c) (u n : Nat) :
    (ticks n (c.delete u).fst).disk.files.get? u = none ∧
    (ticks n (c.delete u).fst).flushAll.disk.files.get? u = none ∧
    (ticks n (c.delete u).fst).close.fst.disk.files.get? u = none ∧
    (ticks n (c.delete u).fst).flushAllAndCommit.fst.disk.files.get? u = none := by
  obtain ⟨l', _, h1, hv⟩ := delete_spec' h u
  obtain ⟨s, h2, hn2, hv2, _⟩ := ticks_spec n h1 (hp.delete u)
  have hnone : (ticks n (c.delete u).1).view u = none := by
    rw [hv2, hv, updView_apply, if_pos rfl]
  refine ⟨(files_none_of_view_none hnone).2, ?_, ?_, ?_⟩
  · rw [flushAll_files_view h2.keyedP hn2, hnone]
  · rw [(close_flushed h2 hn2).files, hnone]
  · rw [(flushAllAndCommit_flushed h2 hn2).files, hnone]

/-- the flusher only ever writes what is pending -/
theorem C10_flusher_writes_only_pending {c : Coll} (hk : c.pending.Keyed) (hp : PendNodup c) (op : FsOp)
    (hop : op ∈ List.drop c.log.length c.flushAll.log) (o : Obj) (ho : op = FsOp.writeObj o) :
    c.pending.get? o.uuid = some o := flush_writes_only_pending hk hp op hop o ho

/-- the flusher is started by the first access (cached or just loaded schema) -/
theorem C10_flusher_started {c : Coll} {l : Loaded} (h : c.schema.snd = Res.ok l) (ha : l.settings.async.isSome = true) :
    l.flusher = true := startFlusher_flusher (schema_mem_some (flusher_started_mem h)).1 ha

end Sod.Props
