/-
  C01 — Reads reflect exactly the accepted writes (CRUD refinement of a map).

  The abstract specification is `Spec` of Proofs/Refine.lean: a finite map uuid ⇀ object with
  nine rules (`Spec.Step`): insert = invalid | unserialisable | unique conflict with ANOTHER
  stored object | store; delete; get = lookup or not-found; exist; count; all.  Its state has no
  cache, pending store, files or index; `SpecCfg` is the descriptors and the unique positions.
  `Sim` ties a concrete collection (any cache / async setting) to a spec state.
-/
import Proofs.Refine
namespace Sod.Props
open Sod

/-- every finite sequence of calls on the model produces, call by call, the observations of
    the abstract map, and the simulation holds again at the end (so it can be continued) -/
theorem C01_refines {cfg : SpecCfg} {E : Env} {calls : List Call} {c : Coll} {l : Loaded} {s : Spec}
    (h : Sim cfg c l s) (ht : CallsTyped E l calls) :
    ∃ l' s' obsSpec, Spec.Run cfg E s calls s' obsSpec ∧
      ObsListEq (Coll.run E c calls).snd obsSpec ∧ Sim cfg (Coll.run E c calls).fst l' s' ∧ Stable l l' :=
  Sod.C01_refines h ht

/-- the hypotheses are satisfiable: the empty collection, under EVERY settings value, simulates
    the empty map -/
theorem C01_initial (descs : List FieldDesc) (st : Settings) :
    Sim { descs := descs, uniquePos := (ObjIndex.new descs).uniquePos } (emptyColl descs st) (emptyLoaded descs st)
      { map := fun _ => none, dom := [] } := sim_init descs st

/-- an identifier that is not stored is answered not-found EVERY time it is tried … -/
theorem C01_absent_always {cfg : SpecCfg} {c : Coll} {l : Loaded} {s : Spec} (h : Sim cfg c l s)
    (u : Nat) (hu : s.map u = none) (n : Nat) :
    ((iter n (fun c => (c.get u).fst) c).get u).snd = Res.err Err.notFound :=
  Sod.C01_absent_always h u hu n

/-- … also after any number of other reads in between -/
theorem C01_absent_after_reads {cfg : SpecCfg} {E : Env} {c : Coll} {l : Loaded} {s : Spec} (h : Sim cfg c l s)
    (u : Nat) (hu : s.map u = none) (reads : List Call) (hr : ∀ k ∈ reads, k.isRead = true) :
    (Coll.step E (Coll.run E c reads).fst (Call.get u)).snd = Obs.obj (Res.err Err.notFound) :=
  Sod.C01_absent_after_reads h u hu reads hr

/-- two collections with different settings but the same abstract content answer every call
    list alike (the cache and asynchronous writes are unobservable) -/
theorem C01_config_independent {cfg : SpecCfg} {E : Env} {calls : List Call} {c₁ c₂ : Coll} {l₁ l₂ : Loaded} {s : Spec}
    (h₁ : Sim cfg c₁ l₁ s) (h₂ : Sim cfg c₂ l₂ s) (t₁ : CallsTyped E l₁ calls) (t₂ : CallsTyped E l₂ calls) :
    ObsListEq (Coll.run E c₁ calls).snd (Coll.run E c₂ calls).snd :=
  (Sod.C01_config_independent h₁ h₂ t₁ t₂).1

end Sod.Props
