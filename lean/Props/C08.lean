/-
  C08 — Concurrent calls are linearizable and free of data races.

  Over the lock machine (`Proofs/Lock.lean`): a write holder excludes every other holder, and the
  access table extracted from the source is covered, so there is no data race.  Over the machine of
  critical sections (`Proofs/Linearize.lean`): calls that take the handle lock once, which
  `C08_one_section` checks of the source, are linearizable.
-/
import Proofs.Lock
import Generated.Locks
import Proofs.Linearize
namespace Sod.Props
open Sod.Lock

/-- a write holder excludes every other holder, in every reachable state of every schedule -/
theorem C08_mutex {s0 s : State} (h0 : Initial s0) (r : Reach s0 s) :
    ∀ (i j : Nat) (t u : Thread) (l : LockId), i ≠ j → s[i]? = some t → s[j]? = some u → holdsW t l → ¬ holds u l :=
  Sod.Lock.C08_mutex h0 r

/-- REGENERATED on every run: every pair of conflicting accesses to shared index, schema, cache
    or pending-store memory found in the current source holds a common lock, one of them in
    write mode (evaluated region by region, the regions being the indices of `regionNames`) -/
theorem C08_accesses_covered : covered Generated.Locks.accesses = true :=
  covered_of_regions Generated.Locks.regionNames.length _ (by decide +kernel) (by decide +kernel)

/-- therefore two threads of a reachable state are never inside conflicting accesses at once -/
theorem C08_race_free {s0 s : State} (h0 : Initial s0) (r : Reach s0 s)
    (a b : Access) (ha : a ∈ Generated.Locks.accesses) (hb : b ∈ Generated.Locks.accesses)
    (hcf : conflicting a b = true)
    (i j : Nat) (t u : Thread) (hij : i ≠ j) (hi : s[i]? = some t) (hj : s[j]? = some u)
    (inst : Nat → Nat)
    (hta : ∀ c m, (c, m) ∈ a.held → ((c, inst c), m) ∈ t.held)
    (hub : ∀ c m, (c, m) ∈ b.held → ((c, inst c), m) ∈ u.held) : False :=
  Sod.Lock.C08_race_free h0 r Generated.Locks.accesses C08_accesses_covered a b ha hb hcf i j t u hij hi hj inst hta hub

/-- calls which are, by their contract, a SEQUENCE of critical sections: the chunked insert applies
    one `InsertOrUpdateMany` per chunk (C07), the flusher is a loop of polls -/
def composite : List String := ["DB.InsertOrUpdateBulk", "go:DB.startAsyncWritesRoutine"]

/-- REGENERATED on every run: every other exported call, on every path, takes the handle lock at
    most once — it is ONE critical section (so `C08_linearizable` applies to it) -/
theorem C08_one_section :
    Generated.Locks.sections.all (fun p => p.2 ≤ 1 || composite.contains p.1) = true := by decide +kernel

/-- calls that run as one critical section of a readers/writer lock are linearizable: every
    interleaving of their micro-steps gives every call the result, and the shared state the final
    value, of running the calls one at a time in lock-acquisition order, which contains every call
    once and respects program order and real-time order -/
theorem C08_linearizable {S L R : Type} (σ0 : S) (ps : List (List (Lin.Call S L R)))
    (hwf : ∀ p ∈ ps, ∀ c ∈ p, c.WF) (s : Lin.State S L R)
    (hrun : Lin.Steps (Lin.initial σ0 ps) s) (hfin : Lin.finished s) :
    let order := Lin.acqOrder s.hist
    (Lin.runSeq ps order σ0).1 = s.σ ∧
    (∀ id res, Lin.Event.rel id res ∈ s.hist → (id, res) ∈ (Lin.runSeq ps order σ0).2) ∧
    order.Nodup ∧
    (∀ (i k : Nat), (∃ c, Lin.callOf ps (i, k) = some c) ↔ (i, k) ∈ order) ∧
    (∀ (i k k' : Nat), k < k' → (i, k') ∈ order →
       ∃ a b : Nat, order[a]? = some (i, k) ∧ order[b]? = some (i, k') ∧ a < b) ∧
    (∀ (c d : Lin.CallId) (pr pa : Nat), Lin.posOf s.hist (Lin.isRel c) = some pr →
       Lin.posOf s.hist (Lin.isAcq d) = some pa → pr < pa →
       ∃ a b : Nat, order[a]? = some c ∧ order[b]? = some d ∧ a < b) :=
  Lin.linearizable σ0 ps hwf s hrun hfin

/-- in such a complete execution every call that acquired the lock has returned -/
theorem C08_all_returned {S L R : Type} (σ0 : S) (ps : List (List (Lin.Call S L R)))
    (hwf : ∀ p ∈ ps, ∀ c ∈ p, c.WF) (s : Lin.State S L R)
    (hrun : Lin.Steps (Lin.initial σ0 ps) s) (hfin : Lin.finished s) :
    ∀ id ∈ Lin.acqOrder s.hist, ∃ res, Lin.Event.rel id res ∈ s.hist :=
  Lin.linearizable_all_returned σ0 ps hwf s hrun hfin

end Sod.Props
