/-
  C06 — A rejected or failed write leaves no trace.
  The frame theorems give equality of the WHOLE concrete state (index, cache, pending store,
  directory, file-operation log), which is stronger than equal observations and is what makes
  "including cached reads" immediate.
-/
import Proofs.Batch
namespace Sod.Props
open Sod

/-- a single InsertOrUpdate that returns ANY error returns the state it was given -/
theorem C06_insert_rejected_frame {E : Env} {c : Coll} {l : Loaded} (h : Sod.Inv c l) (o : Obj) (fresh : Nat)
    (ht : Obj.Typed l.index (assignNew (E.canon l.descs (E.transform o)) fresh)) (e : Err)
    (hr : (Coll.insert E c o fresh).snd = Res.err e) : (Coll.insert E c o fresh).fst = c :=
  insert_rejected_frame h o fresh ht e hr

/-- the same for a batch: an error answer means state unchanged and count 0 -/
theorem C06_many_rejected_frame {E : Env} {c : Coll} {l : Loaded} (h : Inv' c l) (os : List Obj) (w : Option (Nat × Bool))
    (ht : ∀ o ∈ os, Obj.Typed l.index (vald E l.descs o)) (hs : SameShape (ObjIndex.new l.descs) l.index)
    (e : Err) (hr : (Coll.many E c os w).snd.snd = Res.err e) : Coll.many E c os w = (c, 0, Res.err e) := by
  rcases Sod.C07_many_atomic (E := E) h os w ht hs with ⟨e', he⟩ | ⟨c', l', he, _⟩
  · rw [he] at hr ⊢
    cases hr
    rfl
  · rw [he] at hr
    cases hr

/-- the rejection classes are exactly: invalid (Validate), unserialisable value, uniqueness -/
theorem C06_reject_classes {E : Env} {c : Coll} {l : Loaded} {o : Obj} (commit : Bool) :
    (E.serialisable o = false → Coll.insertCore E c l o commit = (c, Res.err Err.other)) ∧
    (E.serialisable o = true → l.index.satisfyAll o = Res.err Err.unique →
       Coll.insertCore E c l o commit = (c, Res.err Err.unique)) :=
  ⟨insertCore_reject_serial commit, insertCore_reject_unique commit⟩

end Sod.Props
