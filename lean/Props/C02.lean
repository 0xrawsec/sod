/-
  C02 — Search returns exactly the matching objects, for every operator and field.
-/
import Proofs.SearchColl
import Proofs.Expects
namespace Sod.Props
open Sod

/-- Index layer, all six comparison operators at once: on a descending field index the
    mirror of the Go search code (bisection + slice windows) returns exactly, and in index
    order, the entries whose value satisfies the comparison. -/
theorem C02_index_exact (m : Option Matcher) (op : Op) (hop : op ≠ .re) (l : FIdx) (k : Val) (h : Desc l) :
    ObjIndex.searchOp m op l k = .ok (l.filter (fun e => Val.eval (fun _ => false) op e.1 k)) :=
  searchOp_filter m op hop l k h

/-- The bisection itself: the insertion index splits a descending index into the entries not
    less than the probe and the entries less than it (every length, every probe). -/
theorem C02_bisection (l : FIdx) (k : Val) (h : Desc l) :
    (∀ e ∈ l.take (insertionIndex l k), Val.lt e.1 k = false) ∧
    (∀ e ∈ l.drop (insertionIndex l k), Val.lt e.1 k = true) :=
  insertionIndex_take_drop l k h

/-- Collection layer: if the index is well formed and reflects the stored objects, a search on an
    indexed field denotes all and only the stored objects whose field satisfies the comparison. -/
theorem C02_collection_exact {ix : ObjIndex} {objs : Nat → Option Obj} (h : ix.WF) (hrf : Reflects ix objs)
    {fi : FieldIdx} (hfi : fi ∈ ix.fields) (op : Op) (hop : op ≠ .re) (m : Option Matcher) (v : Val) :
    ∃ r, ObjIndex.searchOp m op fi.idx v = .ok r ∧
      (∀ e : Entry, e ∈ r ↔ ∃ u o, (e.2, u) ∈ ix.ids ∧ objs u = some o ∧ o.field fi.pos = .v e.1 ∧
                                   Val.eval (fun _ => false) op e.1 v = true) ∧
      r.Sublist fi.idx :=
  ⟨_, searchOp_eval (h.fields fi hfi).desc (fun e => absurd e hop) (fun _ e => absurd e hop),
    fun e => mem_filter_reflects hrf hfi _ e, List.filter_sublist⟩

/-- the same for the pattern operator, for any compiled matcher -/
theorem C02_pattern_exact {ix : ObjIndex} {objs : Nat → Option Obj} (h : ix.WF) (hrf : Reflects ix objs)
    {fi : FieldIdx} (hfi : fi ∈ ix.fields) (hc : fi.cast = Tag.str) (f : Matcher) (s : Bytes) :
    ∃ r, ObjIndex.searchOp (some f) .re fi.idx (.str s) = .ok r ∧
      (∀ e : Entry, e ∈ r ↔ ∃ u o, (e.2, u) ∈ ix.ids ∧ objs u = some o ∧ o.field fi.pos = .v e.1 ∧
                                   Val.eval f .re e.1 (.str s) = true) ∧
      r.Sublist fi.idx :=
  ⟨_, searchOp_eval (h.fields fi hfi).desc (fun _ e he => ((h.fields fi hfi).homog e he).trans hc) (fun _ _ _ => rfl),
    fun e => mem_filter_reflects hrf hfi _ e, List.filter_sublist⟩

/-- And on an indexed field: the refined index holds exactly the entries of the field index
    whose object is in the previous result (then the operator theorem applies to it, since it
    is descending again). -/
theorem C02_and_constrain (l prev : FIdx) (hn : (l.map (·.2)).Nodup) (hp : (prev.map (·.2)).Nodup) :
    Desc (l.constrain prev) ∧
    (l.constrain prev).Perm (l.filter (fun e => prev.any (fun f => f.2 == e.2))) :=
  ⟨constrain_desc l prev, constrain_perm l prev hn hp⟩

/-- Or: the result is the new matches followed by the old entries whose object is not among
    them — the duplicate-free union, by object id. -/
theorem C02_or_union (E : Env) (c : Coll) (s : Search) (field : String) (op : Option Op) (probe : Leaf)
    (hs : s.err = none) :
    (Coll.searchOr E c s field op probe).2.fields =
      (Coll.search E c field op probe none).2.fields ++
        s.fields.filter (fun f => !((Coll.search E c field op probe none).2.fields.any (fun g => g.2 == f.2))) :=
  (searchOr_eq E c s field op probe hs).2.2

theorem C02_or_mem (n s : FIdx) (e : Entry) :
    e ∈ n ++ s.filter (fun f => !(n.any (fun g => g.2 == f.2))) ↔
      e ∈ n ∨ (e ∈ s ∧ ∀ g ∈ n, g.2 ≠ e.2) := mem_union_by_oid n s e

/-- non-vacuity: a descending index with ties, and a probe between two values -/
example : Desc [(Val.i64 5, 1), (Val.i64 3, 2), (Val.i64 3, 4), (Val.i64 1, 3)] := by
  unfold Desc
  decide +kernel
example : ObjIndex.searchOp none .ge [(Val.i64 5, 1), (Val.i64 3, 2), (Val.i64 3, 4), (Val.i64 1, 3)] (Val.i64 2)
    = .ok [(Val.i64 5, 1), (Val.i64 3, 2), (Val.i64 3, 4)] := by
  rw [C02_index_exact none .ge (by decide) _ _ (by unfold Desc; decide +kernel)]
  decide +kernel

/-! ### the whole path `DB.Search` / `Search.And` / `Search.Or` / `Search.Delete` on a collection

In `Matches c m op pos v u` the matcher `m` is what `re` evaluates and no other operator looks at
(`Val.eval`), so the statements for `op ≠ re` put the dummy `fun _ => false` there (`re` itself:
`search_indexed_re_exact`, `search_unindexed_re_exact`). -/

/-- indexed field: exactly the matching objects, each once, in non-increasing order; the
    collection is unchanged -/
theorem C02_search_indexed {E : Env} {c : Coll} {l : Loaded} {field : String} {fi : FieldIdx} {op : Op} {probe : Leaf} {pv : Val}
    (h : Inv' c l) (hi : l.index.field? field = some fi) (hr : pathResolvable c.live field = true)
    (hp : E.prepare l.descs field probe = Leaf.v pv) (ht : pv.tag = fi.cast) (hop : op ≠ Op.re) :
    ∃ s, Coll.search E c field (some op) probe none = (c, s) ∧ s.err = none ∧
      (∀ e ∈ s.fields, ∃ u, l.index.uuidOf e.snd = some u ∧ Matches c (fun _ => false) op fi.pos pv u) ∧
      (∀ u, Matches c (fun _ => false) op fi.pos pv u → ∃ e ∈ s.fields, l.index.uuidOf e.snd = some u) ∧
      Desc s.fields ∧ (s.fields.map (·.snd)).Nodup := by
  obtain ⟨s, e, herr, _, hd, hx⟩ := search_indexed_exact h hi hr hp ht (scanMatcher_of_ne_re E hop pv)
  exact ⟨s, e, herr, hx.sound, hx.complete, hd, hx.nodup⟩

/-- unindexed field: the scan returns exactly the matching objects, each once; what the
    collection denotes and its directory are unchanged -/
theorem C02_search_unindexed {E : Env} {c : Coll} {l : Loaded} {field : String} {op : Op} {probe : Leaf} {pv : Val}
    {pos : Nat} {d : FieldDesc} (h : Inv' c l) (hi : l.index.field? field = none)
    (hr : pathResolvable c.live field = true) (hp : E.prepare l.descs field probe = Leaf.v pv)
    (hd : descPos? l.descs field = some (pos, d)) (hc : d.cast = some pv.tag) (hop : op ≠ Op.re)
    (hty : ∀ u o, c.view u = some o → ∃ x, o.field pos = Leaf.v x) :
    ∃ c' s, Coll.search E c field (some op) probe none = (c', s) ∧ s.err = none ∧ c'.view = c.view ∧ c'.disk = c.disk ∧
      (∀ e ∈ s.fields, ∃ u, l.index.uuidOf e.snd = some u ∧ Matches c (fun _ => false) op pos pv u) ∧
      (∀ u, Matches c (fun _ => false) op pos pv u → ∃ e ∈ s.fields, l.index.uuidOf e.snd = some u) ∧
      (s.fields.map (·.snd)).Nodup := by
  obtain ⟨c', s, e, herr, _, _, hv, hdisk, hx⟩ :=
    search_scan_exact h hi hr hp hd hc (scanMatcher_of_ne_re E hop pv) hty
  exact ⟨c', s, e, herr, hv, hdisk, hx.sound, hx.complete, hx.nodup⟩

/-- And narrows to the intersection, Or widens to the duplicate-free union -/
theorem C02_and_intersection {E : Env} {c : Coll} {l : Loaded} {field : String} {fi : FieldIdx} {op : Op} {probe : Leaf} {pv : Val}
    (h : Inv' c l) (hi : l.index.field? field = some fi) (hr : pathResolvable c.live field = true)
    (hp : E.prepare l.descs field probe = Leaf.v pv) (ht : pv.tag = fi.cast) (hop : op ≠ Op.re)
    (s0 : Search) (he : s0.err = none) (hn : (s0.fields.map (·.snd)).Nodup) (u : Nat) :
    Denotes l (Coll.searchAnd E c s0 field (some op) probe).snd.fields u ↔
      Denotes l s0.fields u ∧ Matches c (fun _ => false) op fi.pos pv u :=
  and_indexed_matches h hi hr hp ht (scanMatcher_of_ne_re E hop pv) s0 he hn u

theorem C02_or_is_union {E : Env} {c : Coll} {l : Loaded} {field : String} {fi : FieldIdx} {op : Op} {probe : Leaf} {pv : Val}
    (h : Inv' c l) (hi : l.index.field? field = some fi) (hr : pathResolvable c.live field = true)
    (hp : E.prepare l.descs field probe = Leaf.v pv) (ht : pv.tag = fi.cast) (hop : op ≠ Op.re)
    (s0 : Search) (he : s0.err = none) :
    (Coll.searchOr E c s0 field (some op) probe).fst = c ∧
    ((s0.fields.map (·.snd)).Nodup → ((Coll.searchOr E c s0 field (some op) probe).snd.fields.map (·.snd)).Nodup) ∧
    ∀ u, Denotes l (Coll.searchOr E c s0 field (some op) probe).snd.fields u ↔
      Matches c (fun _ => false) op fi.pos pv u ∨ Denotes l s0.fields u := by
  obtain ⟨a, _, b, d⟩ := or_indexed_matches h hi hr hp ht (scanMatcher_of_ne_re E hop pv) s0 he
  exact ⟨a, b, d⟩

/-- deleting through a search removes exactly the designated objects -/
theorem C02_search_delete {c : Coll} {l : Loaded} (h : Inv' c l) (s : Search) (he : s.err = none) :
    ∃ c' l', c.searchDelete s = (c', Res.ok ()) ∧ Inv' c' l' ∧
      c'.view = fun w => if w ∈ s.uuids l then none else c.view w :=
  searchDelete_spec h s he

/-- `Expects(n)` / `ExpectsZeroOrN(n)` keep the members of a search, keep an earlier failure, and
    turn the search into a failed one (class: unexpected number of results) exactly when it holds
    another number of results -/
theorem C02_expects_members (s : Search) (z : Bool) (n : Nat) : (s.expects z n).fields = s.fields :=
  expects_fields s z n

theorem C02_expects_iff (s : Search) (z : Bool) (n : Nat) (h : s.err = none) :
    (s.expects z n).err = none ↔ (s.fields.length = n ∨ (z = true ∧ s.fields.length = 0)) :=
  expects_ok_iff s z n h

theorem C02_expects_class (s : Search) (z : Bool) (n : Nat) (h : s.err = none)
    (hn : ¬ (s.fields.length = n ∨ (z = true ∧ s.fields.length = 0))) :
    (s.expects z n).err = some Err.unexpectedN := expects_err_class s z n h hn

end Sod.Props
