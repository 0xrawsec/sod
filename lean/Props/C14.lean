/-
  C14 — Stored values are isolated from caller memory.

  Values are trees whose reference nodes (pointer, slice, map) carry identity tags
  (SodModel/Clone.lean); aliasing = a shared tag; a write through a reference is `mutate`.
  `clone` mirrors `cloneValue` kind by kind.  The correspondence (`harness -alias`) checks on
  random deep shapes that the real `reflect`-based code shows exactly the relation proved here:
  copies equal, references reachable through exported fields all fresh.
  Restriction, shown necessary by `C14_unexported_exception`: unexported fields that hold
  references keep sharing (documented in object.go).
-/
import Proofs.Clone
namespace Sod.Props
open Sod.Clone

/-- a copy equals the original up to identities (what a JSON round trip through the file gives) -/
theorem C14_clone_equal (n : Nat) (v : V) : strip (clone n v).1 = strip v := clone_strip n v

/-- every reference reachable through exported fields of a copy is new, and no two coincide -/
theorem C14_clone_fresh (n : Nat) (v : V) :
    (∀ t ∈ tagsExp (clone n v).1, n ≤ t ∧ t < (clone n v).2) ∧ (tagsExp (clone n v).1).Nodup :=
  ⟨clone_tags_fresh n v, clone_tags_nodup n v⟩

/-- mutating an object AFTER storing it (through any reference it contains) never changes what
    is stored -/
theorem C14_put_isolated (s : Store) (key : Nat) (v : V) (hu : tagsAll v = tagsExp v) (hv : ∀ t ∈ tagsAll v, t < s.next) :
    ∀ t ∈ tagsAll v, ∀ w, ((s.put key v).mutate t w).objs.find? (fun p => p.1 == key) =
      (s.put key v).objs.find? (fun p => p.1 == key) := fun t ht => put_isolated s key v hu (hv t ht)

/-- mutating an object RETURNED by a read never changes what is stored -/
theorem C14_get_isolated (s : Store) (hf : s.Fresh) (key : Nat) (v' : V) (s' : Store) (hg : s.get key = (some v', s'))
    (hu : ∀ p ∈ s.objs, tagsAll p.2 = tagsExp p.2) :
    ∀ t ∈ tagsAll v', ∀ w, (s'.mutate t w).objs = s'.objs := get_isolated s hf key v' s' hg hu

/-- two reads never share mutable memory -/
theorem C14_two_reads_disjoint (s : Store) (key : Nat) (a b : V) (s1 s2 : Store)
    (hu : ∀ p ∈ s.objs, tagsAll p.2 = tagsExp p.2) (h1 : s.get key = (some a, s1)) (h2 : s1.get key = (some b, s2)) :
    ∀ t ∈ tagsAll a, t ∉ tagsAll b := two_gets_disjoint s key a b s1 s2 hu h1 h2

/-- what a read returns equals what was stored -/
theorem C14_roundtrip (s : Store) (key : Nat) (v : V) : ((s.put key v).get key).1.map strip = some (strip v) :=
  put_get_roundtrip s key v

/-- the documented exception: a reference in an UNEXPORTED field stays shared by the copy -/
theorem C14_unexported_exception : ∃ v t, t ∈ tagsAll (clone 100 v).1 ∧ t ∈ tagsAll v ∧ t < 100 := unexported_shared

end Sod.Props
