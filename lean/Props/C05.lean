/-
  C05 — A crash at any point is detected or harmless, and Repair converges.

  Process-crash model: completed directory mutations persist in order, so the directory after
  a crash inside a call is `c.disk.applyAll (delta.take j)`, `delta` being the mutations the
  call performs (object and schema files are replaced atomically: temp file + rename).
  `Detected d`: reopening answers index corruption.  `Consistent d`: reopening answers ok and
  the stored index reflects the files.

  FULL STATEMENT (not provable: the code violates it, see `C05_update_counterexample`):
      for every synchronous call and every j, Detected ∨ Consistent.
  PROVED: new-object inserts, deletes, and updates that change no indexed value.
  KNOWN FINDING: an update that changes an indexed value, interrupted after its object file
  was replaced and before schema.json was committed (known_findings.json).
-/
import Proofs.Reopen
namespace Sod.Props
open Sod

def C05_full : Prop :=
  ∀ (E : Env) (c : Coll) (l : Loaded) (o : Obj) (fresh : Nat), Inv' c l → Synced c l → ShapeOk c l →
    l.settings.async = none → Obj.Typed l.index (storedObj E l o fresh) → (Coll.insert E c o fresh).snd = Res.ok () →
    ∃ delta, (Coll.insert E c o fresh).fst.log = c.log ++ delta ∧
      ∀ j, Detected c.live (c.disk.applyAll (delta.take j)) ∨ Consistent c.live (c.disk.applyAll (delta.take j))

/-- the file operations of an accepted synchronous insert: the object file, then schema.json -/
theorem C05_insert_ops {E : Env} {c : Coll} {l : Loaded} (h : Inv' c l) (hs : Synced c l) (ha : l.settings.async = none)
    (o : Obj) (fresh : Nat) (ht : Obj.Typed l.index (storedObj E l o fresh)) (hr : (Coll.insert E c o fresh).snd = Res.ok ()) :
    ∃ ix', l.index.insertOrUpdate (storedObj E l o fresh) = Res.ok ix' ∧
      (Coll.insert E c o fresh).fst.log = c.log ++ [FsOp.writeObj (storedObj E l o fresh), FsOp.writeSchema ({ l with index := ix' } : Loaded).img] :=
  let ⟨ix', a, s⟩ := insert_sync_spec h hs.dir ha o fresh ht hr
  ⟨ix', a, s.log⟩

/-- inserting a NEW object: every crash point is detected or consistent -/
theorem C05_partial_insert_new {E : Env} {c : Coll} {l : Loaded} (h : Inv' c l) (hs : Synced c l) (hk : ShapeOk c l)
    (ha : l.settings.async = none) (o : Obj) (fresh : Nat) (ht : Obj.Typed l.index (storedObj E l o fresh))
    (hr : (Coll.insert E c o fresh).snd = Res.ok ()) (hnew : (storedObj E l o fresh).uuid ∉ l.index.uuids) :
    ∃ delta, (Coll.insert E c o fresh).fst.log = c.log ++ delta ∧
      ∀ j, Detected c.live (c.disk.applyAll (delta.take j)) ∨ Consistent c.live (c.disk.applyAll (delta.take j)) :=
  let ⟨_, _, s⟩ := insert_sync_spec h hs.dir ha o fresh ht hr
  ⟨_, s.log, crash_two (consistent_of_inv h hs hk) (Or.inl (detected_new_file hs hk hnew)) (s.consistent hk rfl)⟩

/-- deleting a stored object: every crash point is detected or consistent -/
theorem C05_partial_delete {c : Coll} {l : Loaded} (h : Inv' c l) (hs : Synced c l) (hk : ShapeOk c l) (u : Nat)
    (hu : u ∈ l.index.uuids) :
    ∃ delta, (c.delete u).fst.log = c.log ++ delta ∧
      ∀ j, Detected c.live (c.disk.applyAll (delta.take j)) ∨ Consistent c.live (c.disk.applyAll (delta.take j)) := by
  have s := (delete_sync_spec h hs.dir hs.pending u).2
  rw [delOps_eq h hs.pending, if_pos hu] at s
  exact ⟨_, s.log, crash_two (consistent_of_inv h hs hk) (Or.inl (detected_removed_file hs hk hu)) (s.consistent hk rfl)⟩

/-- updating without changing any indexed value: every crash point is consistent -/
theorem C05_partial_update_same_keys {E : Env} {c : Coll} {l : Loaded} (h : Inv' c l) (hs : Synced c l) (hk : ShapeOk c l)
    (ha : l.settings.async = none) (o : Obj) (fresh : Nat) (ht : Obj.Typed l.index (storedObj E l o fresh))
    (hr : (Coll.insert E c o fresh).snd = Res.ok ()) (hold : (storedObj E l o fresh).uuid ∈ l.index.uuids)
    (hsame : ∀ old, c.view (storedObj E l o fresh).uuid = some old → ∀ fi ∈ l.index.fields,
        (storedObj E l o fresh).field fi.pos = old.field fi.pos) :
    ∃ delta, (Coll.insert E c o fresh).fst.log = c.log ++ delta ∧ delta.length = 2 ∧
      Consistent c.live (c.disk.applyAll (delta.take 0)) ∧ Consistent c.live (c.disk.applyAll (delta.take 1)) ∧
      Consistent c.live (c.disk.applyAll (delta.take 2)) :=
  let ⟨_, _, s⟩ := insert_sync_spec h hs.dir ha o fresh ht hr
  ⟨_, s.log, rfl, consistent_of_inv h hs hk, consistent_same_keys h hs hk hold hsame, s.consistent hk rfl⟩

/-- THE KNOWN FINDING, as a theorem about the model (which mirrors the code): there is a
    reachable synced state and an accepted update whose crash point j = 1 is neither detected
    nor consistent — so `C05_full` is false -/
theorem C05_update_counterexample : ¬ C05_full := by
  intro hfull
  obtain ⟨E, c, l, o, fresh, h1, h2, h3, h4, h5, h6, _, delta, hd, hnd, hnc⟩ := crash_update_counterexample
  obtain ⟨delta', hd', hall⟩ := hfull E c l o fresh h1 h2 h3 h4 h5 h6
  have : delta' = delta := List.append_cancel_left (hd'.symm.trans hd)
  subst this
  rcases hall 1 with hdet | hcon
  · exact hnd hdet
  · exact hnc hcon

/-- Repair never touches the directory -/
theorem C05_repair_no_fs (c : Coll) : c.repair.fst.disk = c.disk ∧ c.repair.fst.log = c.log := repair_no_fs c

end Sod.Props
