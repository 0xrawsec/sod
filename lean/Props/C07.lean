/-
  C07 — Batch insertion is all-or-nothing per batch and per chunk.
-/
import Proofs.Batch
namespace Sod.Props
open Sod

/-- InsertOrUpdateMany: either nothing changes and the count is 0, or every object is stored
    (later members override earlier ones with the same uuid) and the count is the batch size -/
theorem C07_many_atomic {E : Env} {c : Coll} {l : Loaded} (h : Inv' c l) (os : List Obj) (w : Option (Nat × Bool))
    (ht : ∀ o ∈ os, Obj.Typed l.index (vald E l.descs o)) (hs : SameShape (ObjIndex.new l.descs) l.index) :
    (∃ e, Coll.many E c os w = (c, 0, Res.err e)) ∨
      ∃ c' l', Coll.many E c os w = (c', os.length, Res.ok ()) ∧ Inv' c' l' ∧
        c'.view = List.foldl (fun v o => updView v o.uuid (some o)) c.view (validated E l.descs os) ∧
        l'.settings = l.settings ∧ l'.descs = l.descs ∧ SameShape l'.index l.index :=
  Sod.C07_many_atomic h os w ht hs

/-- once every member has been validated (against the temporary index of the batch and against
    the live index as it was before the batch), the insertion loop cannot be refused: no
    half-applied batch can come from a constraint -/
theorem C07_validated_cannot_fail {E : Env} {c : Coll} {l : Loaded} (h : Inv' c l) (os' : List Obj)
    (ht : ∀ o ∈ os', Obj.Typed l.index o) (hser : ∀ o ∈ os', E.serialisable o = true)
    (hsat : ∀ o ∈ os', l.index.satisfyAll o = Res.ok ()) (hni : NoIntra (UPos l.index) (fun _ => none) os') :
    ∃ c' l', Coll.manyInsert E c l os' 0 = (c', l', os'.length, none) ∧ Inv' c' l' ∧
      c'.view = List.foldl (fun v o => updView v o.uuid (some o)) c.view os' :=
  let ⟨c', l', he, a⟩ := manyInsert_all_ok h os' ht hser hsat hni
  ⟨c', l', he, a.inv, a.view⟩

/-- InsertOrUpdateBulk applies whole chunks in arrival order, stops at the first failing chunk
    (which leaves the state untouched), and reports exactly the number of objects stored -/
theorem C07_bulk {E : Env} {c : Coll} {l : Loaded} (h : Inv' c l) (os : List Obj) (k : Nat)
    (ht : ∀ o ∈ os, Obj.Typed l.index (vald E l.descs o)) (hs : SameShape (ObjIndex.new l.descs) l.index) :
    ∃ done rest c' l' r, chunks k os = done ++ rest ∧ done.flatten ++ rest.flatten = os ∧
      Coll.bulk E c os k = (c', done.flatten.length, r) ∧ Inv' c' l' ∧
      c'.view = List.foldl (fun v o => updView v o.uuid (some o)) c.view (validated E l.descs done.flatten) ∧
      (rest = [] ∧ r = Res.ok () ∨ ∃ ch rest' e, rest = ch :: rest' ∧ r = Res.err e ∧ Coll.many E c' ch = (c', 0, Res.err e)) :=
  Sod.C07_bulk h os k ht hs

/-- the chunks partition the input in order; all but the last have the chunk size -/
theorem C07_chunks (k : Nat) (hk : 0 < k) (os : List Obj) :
    (chunks k os).flatten = os ∧
    ∃ init last, chunks k os = init ++ [last] ∧ (∀ ch ∈ init, ch.length = k) ∧ last.length < k :=
  ⟨chunks_concat k os, chunks_sizes k hk os⟩

end Sod.Props
