/-
  C20 — A search result is a snapshot of the matches at evaluation time.

  In the model a `Search` owns its list of (value, object id) entries (the Go code copies the
  window of the index it found: `fix: search results no longer alias the live index`, and the
  correspondence profile `snapshot` checks that the implementation behaves like this model).
  What remains to be proved is that object ids keep designating the same object through every
  later write of the handle.
-/
import Proofs.SearchColl
namespace Sod.Props
open Sod

set_option linter.unusedVariables false in  -- `h` is not used
/-- an accepted insert or update never changes the id of an already stored object -/
theorem C20_oid_stable_insert {ix ix' : ObjIndex} {o : Obj} (h : ix.WF) (hr : ix.insertOrUpdate o = .ok ix')
    {u oid : Nat} (hu : ix.oidOf u = some oid) : ix'.oidOf u = some oid :=
  insertOrUpdate_oidOf_stable hr hu

/-- an id that existed before a write still designates the same object after it, or nothing:
    never another object (ids are never reused within a handle) -/
theorem C20_oid_never_reassigned {ix ix' : ObjIndex} {o : Obj} (h : ix.WF) (hr : ix.insertOrUpdate o = .ok ix')
    {u oid : Nat} (hu : ix'.uuidOf oid = some u) (hlt : oid < ix.next) : ix.uuidOf oid = some u :=
  insertOrUpdate_uuidOf_stable h hr hu hlt

/-- the counter only grows, and a delete leaves it alone: a deleted object's id is never
    given to a later object -/
theorem C20_next_monotone {ix ix' : ObjIndex} {o : Obj} (hr : ix.insertOrUpdate o = .ok ix') : ix.next ≤ ix'.next :=
  insertOrUpdate_next_mono hr

theorem C20_delete_keeps_counter (ix : ObjIndex) (u : Nat) : (ix.deleteByUUID u).next = ix.next :=
  deleteByUUID_next ix u

/-- collecting does not change the entries a search owns (only its remaining limit) -/
theorem C20_collect_keeps_entries (c : Coll) (s : Search) : (Coll.collect c s).2.1.fields = s.fields := by
  unfold Coll.collect
  -- every branch answers `s` or `{ s with limit := _ }`
  split
  · rfl
  · split <;> rfl

/-- the identifiers a collection resolves are exactly those of the owned entries, in order -/
theorem C20_uuids_of_entries (s : Search) (l : Loaded) :
    s.uuids l = s.fields.map (fun e => (l.index.uuidOf e.2).getD 0) := rfl

/-- For ANY search value (evaluated at any earlier time, with any
    writes since): every object Collect returns is the current content of the object designated
    by one of the entries the search owns — never another object — and, the owned entries
    having distinct ids, no object is returned twice.  An entry whose object was deleted
    resolves to the empty identifier, which is never stored (`c.view 0 = none`): collection
    stops there with an error. -/
theorem C20_snapshot {c : Coll} {l : Loaded} (h : Inv' c l) (h0 : c.view 0 = none) (s : Search) :
    (∀ o ∈ (c.collect s).snd.snd.fst, ∃ e ∈ s.fields, ∃ u, l.index.uuidOf e.snd = some u ∧ c.view u = some o ∧ o.uuid = u) ∧
    ((s.fields.map (·.snd)).Nodup → ((c.collect s).snd.snd.fst.map (·.uuid)).Nodup) :=
  collect_only_members h h0 s

end Sod.Props
