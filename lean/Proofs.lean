import Proofs.ListSet
import Proofs.ValOrder
import Proofs.FieldIndex
import Proofs.Lock
import Proofs.ObjIndex
import Proofs.Inv
import Proofs.Prim
import Proofs.Crud
import Proofs.Refine
import Proofs.Batch
import Proofs.Canon
import Proofs.Async
import Proofs.SearchColl
import Proofs.Reopen
import Proofs.Clone
import Proofs.Layout
import Proofs.Tags
import Proofs.Linearize
import Proofs.Expects
import Proofs.Codec
